import Ypv.Lemmas.EditHistory
import Ypv.Props.C04
import Ypv.Props.C09
/-!
# C03 — a set changes exactly the matched nodes (and their aliases), nothing else

Model: `Ypv.setValue` / `setStep` (`Model/Edit.lean`) = `Processor.set_value` → `_apply_change` →
`_update_node` + `recurse` as repaired by `fixes/C03-1.patch`, over the list of matched addresses.
Specification: `Ypv.setSpec` (`Spec/Edit.lean`): ONE pass over the ORIGINAL document in which a node
is replaced iff its address is matched or it carries the anchor name of a matched node.
-/
namespace Ypv.C03
open Ypv

/-- **set_step_eq_spec.** One matched address: the model step equals the specification — the
matched node and every node carrying its anchor name (its aliases, under map keys and inside
sequences alike) hold the new scalar with their anchor kept, nothing else is entered or changed
(not equal scalars elsewhere, not keys spelled like the old value). -/
theorem set_step_eq_spec (v : Scalar) (fmt : Fmt) (d : Node) (a : Addr) (n : Node) (s : Scalar)
    (ha : a ≠ []) (hm : lastIsMember a = false) (hget : d.get? a = some n)
    (hs : newScalar n.anchor.isSome v fmt = .ok s) :
    setStep v fmt d a = .ok (setSpec d [a] s) := by
  unfold setStep setSpec
  simp [ha, hm, hget, hs, isRef_eq_isTarget d a n hget]

/-- **set_eq_spec.**  For every document of the model class (`ScalarAnchors`: below the root only
scalars carry anchors) and EVERY list of matched addresses that lead to scalars (`MatchedScalars`:
any number, any order, repeats, an anchor together with its own aliases), the sequence of model steps
`set_value` performs equals the ONE-SHOT specification on the ORIGINAL document: a node holds the new
scalar (anchor kept) iff its address is matched or it carries the anchor name of a matched node;
nothing else is entered or changed.  `s` is the scalar `make_new_node` produces for the matched nodes
(hypothesis `hv`; see `set_ok_eq_spec` for the form without it). -/
theorem set_eq_spec (v : Scalar) (fmt : Fmt) (s : Scalar) : ∀ (d : Node) (addrs : List Addr),
    MatchedScalars d addrs → ScalarAnchors d →
    (∀ a ∈ addrs, ∀ n, d.get? a = some n → newScalar n.anchor.isSome v fmt = .ok s) →
    setValue v fmt d addrs = .ok (setSpec d addrs s) := by
  intro d addrs hm hs hv
  induction addrs generalizing d with
  | nil => exact congrArg Except.ok (setSpec_nil d s).symm
  | cons a rest ih =>
    obtain ⟨hm1, hmr⟩ := matchedScalars_tail hm
    obtain ⟨ha, hmem, n, hg, _⟩ := hm a List.mem_cons_self
    have hstep := set_step_eq_spec v fmt d a n s ha hmem hg (hv a List.mem_cons_self n hg)
    have ih := ih (setSpec d [a] s) (matchedScalars_setSpec hm1 hs s hmr)
      (scalarAnchors_setSpec hm1 hs s) (by
        intro b hb n' hg'
        obtain ⟨n1, hg1, _, hanc, _⟩ := get?_setSpec_inv hm1 hs s b (hmr b hb).1 n' hg'
        rw [hanc]; exact hv b (List.mem_cons_of_mem _ hb) n1 hg1)
    simp only [setValue, hstep, ih, setSpec_setSpec hm hs s]

/-- an anchored source only adds failures (`None` cannot carry an anchor): what `make_new_node` yields
for any source node, it yields for a plain one -/
theorem newScalar_unanchored {b : Bool} {v : Scalar} {fmt : Fmt} {s : Scalar} (h : newScalar b v fmt = .ok s) :
    newScalar false v fmt = .ok s := by
  cases b with
  | false => exact h
  | true =>
    cases fmt with
    | default =>
      cases v with
      | null => cases h
      | str t =>
        unfold newScalar at h ⊢
        dsimp only at h ⊢
        generalize eTypedValue t = e at h ⊢
        cases e with
        | none => cases h
        | _ => exact h
      | _ => exact h
    | _ => exact h

/-- `make_new_node` yields the same scalar for an anchored and for a plain source node whenever it
yields one for both. -/
theorem newScalar_indep (v : Scalar) (fmt : Fmt) (b b' : Bool) (s s' : Scalar)
    (h : newScalar b v fmt = .ok s) (h' : newScalar b' v fmt = .ok s') : s = s' :=
  Except.ok.inj ((newScalar_unanchored h).symm.trans (newScalar_unanchored h'))

/-- **literal_text_kept.**  A new value given as TEXT that is a simple quoted Python string literal
(`'abc'`, `"two words"`) or an integer look-alike (`0x1F`, `0o17`, `0b101`, `(1)`, `- 5`: an `int` for
`ast.literal_eval`, a `ValueError` for `int()`) is stored AS THAT TEXT, quotation marks and all: in the
DEFAULT format `make_new_node` yields the text for a plain and for an anchored source node alike (so by
`set_eq_spec` every matched node and every alias holds it — the set is not refused), and `wrap_type`
— the value of nodes created for a missing path — yields it too (C09: the created path resolves to
the supplied value). -/
theorem literal_text_kept (anchored : Bool) (s : Str)
    (h : isQuotedLit s = true ∨ isIntLookalike s = true) :
    newScalar anchored (.str s) .default = .ok (.str s) ∧ wrapType (.str s) = .ok (.str s) := by
  have ht : eTypedValue s = .str := if_pos (Bool.or_eq_true_iff.mpr h)
  simp only [newScalar, wrapType, ht, and_self]

-- the hypotheses are met by the texts the property module generates; neighbours are outside the classes
example : isQuotedLit "'abc'".toList = true ∧ isQuotedLit "\"two words\"".toList = true ∧
    isQuotedLit "''".toList = true ∧ isQuotedLit "it's".toList = false ∧ isQuotedLit "'a'b'".toList = false ∧
    isQuotedLit "'a\\nb'".toList = false ∧ isQuotedLit "'".toList = false := by
  -- a literal is `String.ofList` of its characters; decoding its bytes in the kernel costs more than the test itself
  repeat rw [String.toList_ofList]
  decide +kernel
example : isIntLookalike "0x1F".toList = true ∧ isIntLookalike "-0o17".toList = true ∧
    isIntLookalike "0b101".toList = true ∧ isIntLookalike "(1)".toList = true ∧
    isIntLookalike "(-12)".toList = true ∧ isIntLookalike "- 5".toList = true ∧
    isIntLookalike "31".toList = false ∧ isIntLookalike "0x".toList = false ∧
    isIntLookalike "0b102".toList = false ∧ isIntLookalike "(1.5)".toList = false ∧
    isIntLookalike "(01)".toList = false ∧ isIntLookalike "1_000".toList = false := by
  repeat rw [String.toList_ofList]
  decide +kernel
example : newScalar true (.str "0x1F".toList) .default = .ok (.str "0x1F".toList) ∧
    newScalar false (.str "0x1F".toList) .int = .error valueError ∧
    wrapType (.str "'abc'".toList) = .ok (.str "'abc'".toList) ∧
    newScalar false (.str "31".toList) .default = .ok (.int 31) := by
  repeat rw [String.toList_ofList]
  decide +kernel

/-- A successful `set_value`, address by address: the outcome is the specification for ONE scalar, which
`make_new_node` yielded (for every matched node the same: `newScalar_indep`). -/
theorem setValue_ok_spec (v : Scalar) (fmt : Fmt) (d' : Node) : ∀ (d : Node) (addrs : List Addr),
    MatchedScalars d addrs → ScalarAnchors d → setValue v fmt d addrs = .ok d' →
    ∃ s, d' = setSpec d addrs s ∧ (addrs = [] ∨ ∃ b, newScalar b v fmt = .ok s) := by
  intro d addrs hm hs hok
  induction addrs generalizing d with
  | nil => exact ⟨.null, by cases hok; exact (setSpec_nil _ _).symm, .inl rfl⟩
  | cons a rest ih =>
    obtain ⟨hm1, hmr⟩ := matchedScalars_tail hm
    obtain ⟨ha, hmem, n, hg, _⟩ := hm a List.mem_cons_self
    cases hn : newScalar n.anchor.isSome v fmt with
    | error e => simp [setValue, setStep, ha, hmem, hg, hn] at hok
    | ok s =>
      simp only [setValue, set_step_eq_spec v fmt d a n s ha hmem hg hn] at hok
      obtain ⟨s1, rfl, h1⟩ := ih _ (matchedScalars_setSpec hm1 hs s hmr) (scalarAnchors_setSpec hm1 hs s) hok
      refine ⟨s, ?_, .inr ⟨_, hn⟩⟩
      rcases h1 with rfl | ⟨b, hb⟩
      · exact setSpec_nil ..
      · rw [newScalar_indep v fmt _ _ s1 s hb hn, setSpec_setSpec hm hs s]

/-- **set_ok_eq_spec.**  The same without assuming the new scalar: whenever `set_value` succeeds on
a list of matched scalars of a model-class document, the outcome is the one-shot specification for
ONE scalar `s` (`make_new_node` yields the same scalar for every matched node). -/
theorem set_ok_eq_spec (v : Scalar) (fmt : Fmt) (d d' : Node) (addrs : List Addr)
    (hm : MatchedScalars d addrs) (hs : ScalarAnchors d) (hok : setValue v fmt d addrs = .ok d') :
    ∃ s, d' = setSpec d addrs s :=
  let ⟨s, h, _⟩ := setValue_ok_spec v fmt d' d addrs hm hs hok
  ⟨s, h⟩

/-- **set_frame.** The frame of every pass: a subtree in which no node is a target is returned
unchanged; a mapping keeps all its keys in order (no key is ever renamed, however it is spelled);
a sequence keeps its length, hence every element its position. -/
theorem set_frame (p : Addr → Node → Bool) (f : Node → Node) :
    (∀ d : Node, (∀ y n, p y n = false) → d.mapAt p f = d)
    ∧ (∀ es, (mapAtEntries p f es).map Prod.fst = es.map Prod.fst)
    ∧ (∀ i cs, (mapAtList p f i cs).length = cs.length) :=
  ⟨fun d h => mapAt_none d p f h, mapAtEntries_keys p f, fun i cs => by
    induction cs generalizing i with
    | nil => rfl
    | cons c cs ih => exact congrArg (· + 1) (ih (i + 1))⟩

/-- **set_keeps_anchors.** A replaced node keeps its anchor name and every replaced node holds the
same scalar: all nodes that carried one anchor name before still carry it and — being replaced
together — are equal afterwards (the in-model reading of "no duplicate or undefined anchors"). -/
theorem set_keeps_anchors (s : Scalar) (n m : Node) (h : n.anchor = m.anchor) :
    putScalar s n = putScalar s m ∧ (putScalar s n).anchor = n.anchor :=
  ⟨congrArg (Node.scalar · s) h, putScalar_anchor s n⟩

/-- **set_preserves_anchorWF** (whole documents).  In a model-class document in which all nodes
carrying one anchor name are equal (`AnchorWF`: an anchor and its aliases), a set through ANY matched
scalars — the anchored node itself, one of its aliases, several of them, bystanders — leaves a document
in which all nodes carrying one anchor name are again equal: an anchor is never left with an alias of a
different value (the in-model reading of "dumps without duplicate or undefined anchors"). -/
theorem set_preserves_anchorWF (s : Scalar) (d : Node) (addrs : List Addr)
    (hm : MatchedScalars d addrs) (hs : ScalarAnchors d) (hw : AnchorWF d) :
    AnchorWF (setSpec d addrs s) := by
  intro y y' n' m' hy hy' hg hg' ha he
  obtain ⟨n, hgn, hn', hanc, _⟩ := get?_setSpec_inv hm hs s y hy n' hg
  obtain ⟨m, hgm, hm', hancm, _⟩ := get?_setSpec_inv hm hs s y' hy' m' hg'
  have hnm : n = m := hw y y' n m hy hy' hgn hgm (by rw [← hanc]; exact ha) (by rw [← hanc, ← hancm]; exact he)
  subst hnm
  cases hx : n.anchor with
  | none => rw [hanc, hx] at ha; cases ha
  | some x =>
    rw [hn', hm', imageAt_anchored hs s hy hgn hx, imageAt_anchored hs s hy' hgm hx]

/-- The same for the model run: after a successful `set_value` the document is anchor-well-formed
and still in the model class (so the statement carries over to every later edit). -/
theorem set_preserves_anchorWF_model (v : Scalar) (fmt : Fmt) (d d' : Node) (addrs : List Addr)
    (hm : MatchedScalars d addrs) (hs : ScalarAnchors d) (hw : AnchorWF d)
    (hok : setValue v fmt d addrs = .ok d') : AnchorWF d' ∧ ScalarAnchors d' := by
  obtain ⟨s, rfl⟩ := set_ok_eq_spec v fmt d d' addrs hm hs hok
  exact ⟨set_preserves_anchorWF s d addrs hm hs hw, scalarAnchors_setSpec hm hs s⟩

/-! ### Histories: the model refines a plain-data model

`Node.plain` erases every anchor (aliases are already expanded in `Node`).  The plain-data model
(`POp`, `runPlain` in `Spec/Edit.lean`) has three elementary edits, none of which can look at an
anchor: put a scalar at the nodes whose ADDRESS is in a given set, remove the nodes at a set of
addresses, replace the node at one address.  `OpAbs d op pops` reads an operation performed in the
anchored document `d` as plain edits: a set is one `put` per `_update_node` call, at the addresses of
the matched node and of the nodes carrying its anchor name in the document of that moment
(`stepAbs`); a delete is `remove` of the matched addresses; a creation is a `graft` of the node
`createHere` builds at the deepest existing node (C09 `create_exact`) followed by the `put` of the
value.  Documents have pairwise different mapping keys (`Node.keysNodup`; true of every loaded YAML
document) — this is what makes "the nodes at these addresses" the same thing in both models. -/

theorem opAbs_total (d : Node) (op : Op) : ∃ pops, OpAbs d op pops := by
  cases h : op.apply d with
  | error e => exact ⟨[], .failed h⟩
  | ok d' =>
    cases op with
    | set addrs v fmt => exact ⟨_, .set h⟩
    | delete addrs =>
      exact ⟨_, .delete fun hr => nomatch (C04.delete_root_refused d addrs hr).symm.trans h⟩
    | create segs v fmt =>
      have h : setOrCreate d segs v fmt = .ok d' := h
      unfold setOrCreate at h
      split at h
      · cases h
      · next r hr =>
        unfold getOrCreate at hr
        split at hr
        · cases hr
        · next leaf hw =>
          cases C09.create_exact leaf d segs r hr with
          | present n hf hd => exact ⟨_, .createNone hw hr hd (hd ▸ h)⟩
          | nullRelay pre seg rest q n ref _ _ _ _ hd _ => exact ⟨_, .createNone hw hr hd (hd ▸ h)⟩
          | created pre seg rest q n n' hseg hf hl hch hd ha => exact ⟨_, .created hw hr hseg hf hl hch hd h⟩

/-- **One operation on plain data** (from `C04.delete_eq_spec`, `C09.create_exact`, `step_refines`):
erasing the anchors after the operation = running its plain-data reading on the erased document. -/
theorem opAbs_sound (d : Node) (op : Op) (pops : List POp) (hk : d.keysNodup = true) (h : OpAbs d op pops) :
    (op.step d).plain = runPlain d.plain pops ∧ (op.step d).keysNodup = true := by
  cases h with
  | failed he => simp only [Op.step, he, runPlain]; exact ⟨trivial, hk⟩
  | set hs =>
    simp only [Op.step, Op.apply, hs]
    exact setAbs_refines _ _ _ d _ hk hs
  | delete hr =>
    rename_i addrs
    have : delete d addrs = .ok (d.removeAll addrs) := by rw [C04.delete_eq_spec]; simp [deleteSpec, hr]
    simp only [Op.step, Op.apply, this, runPlain, POp.apply]
    exact ⟨plain_removeAll d _, keysNodup_removeAll d _ hk⟩
  | createNone hw hc hd hs =>
    rename_i d' segs v fmt leaf r
    have : setOrCreate d segs v fmt = .ok d' := by
      simp only [setOrCreate, getOrCreate, hw, hc, hd]; exact hs
    simp only [Op.step, Op.apply, this, runPlain]
    exact step_refines _ _ d _ _ hk hs
  | created hw hc hseg hf hl hch hd hs =>
    rename_i d' segs v fmt leaf r pre seg rest q n n'
    have : setOrCreate d segs v fmt = .ok d' := by
      simp only [setOrCreate, getOrCreate, hw, hc]; exact hs
    simp only [Op.step, Op.apply, this, runPlain]
    have hkn' := createHere_keysNodup (keysNodup_get? q d n hk hf.get?) hl hch
    have hk1 : r.doc.keysNodup = true := by rw [hd]; exact keysNodup_graftAt n' hkn' d q hk
    obtain ⟨h1, h2⟩ := step_refines v fmt r.doc d' r.addr hk1 hs
    refine ⟨?_, h2⟩
    rw [h1, hd, plain_graftAt (fun _ => n') (fun _ => n'.plain) (fun _ => rfl) d q]
    rfl

/-- **history_refines.**  For EVERY list of set / delete / create operations (any matched addresses,
any values; failing operations change nothing) and every document with pairwise different mapping
keys, the history has a plain-data reading `pops` (`HistAbs`: operation by operation, in the document
of that moment) and erasing the anchors COMMUTES with running it:
`(runOps d ops).plain = runPlain d.plain pops`. -/
theorem history_refines : ∀ (ops : List Op) (d : Node), d.keysNodup = true →
    ∃ pops, HistAbs d ops pops ∧ (runOps d ops).plain = runPlain d.plain pops ∧ (runOps d ops).keysNodup = true := by
  intro ops
  induction ops with
  | nil => exact fun d hk => ⟨[], .nil d, rfl, hk⟩
  | cons op ops ih =>
    intro d hk
    obtain ⟨p1, ha⟩ := opAbs_total d op
    obtain ⟨h1, hk1⟩ := opAbs_sound d op p1 hk ha
    obtain ⟨p2, hb, h2, hk2⟩ := ih (op.step d) hk1
    have hrun : runOps d (op :: ops) = runOps (op.step d) ops := by
      simp only [runOps, Op.step]; cases op.apply d <;> rfl
    exact ⟨p1 ++ p2, .cons ha hb, by rw [hrun, h2, h1, runPlain_append], by rw [hrun]; exact hk2⟩

/-- The plain-data outcome does not depend on which reading of the history is taken (the only
freedom `OpAbs` leaves is how a creation is split into existing prefix and missing tail). -/
theorem history_refines_det (ops : List Op) (d : Node) (pops pops' : List POp)
    (h : HistAbs d ops pops) (h' : HistAbs d ops pops') (hk : d.keysNodup = true) :
    runPlain d.plain pops = runPlain d.plain pops' := by
  induction h generalizing pops' with
  | nil d => cases h'; rfl
  | cons ha hb ih =>
    cases h' with
    | cons ha' hb' =>
      obtain ⟨h1, hk1⟩ := opAbs_sound _ _ _ hk ha
      obtain ⟨h1', _⟩ := opAbs_sound _ _ _ hk ha'
      rw [runPlain_append, runPlain_append, ← h1, ← h1']
      exact ih _ hb' hk1

/-! ### Concrete witnesses -/

def I (a : Option Str) (i : Int) : Node := .scalar a (.int i)

/-- `[1, 1, 2]`, set `[1]`: only the second element changes (the pinned code changes both). -/
example : setValue (.int 9) .default (.seq none [I none 1, I none 1, I none 2]) [[.idx 1]]
    = .ok (.seq none [I none 1, I none 9, I none 2]) := by decide +kernel
/-- `{a: b, b: x}`, set `a`: the key `b` stays (the pinned code renames it). -/
example : setValue (.str ['z']) .default
      (.map none [(.str ['a'], .scalar none (.str ['b'])), (.str ['b'], .scalar none (.str ['x']))]) [[.key (.str ['a'])]]
    = .ok (.map none [(.str ['a'], .scalar none (.str ['z'])), (.str ['b'], .scalar none (.str ['x']))]) := by
  decide +kernel
/-- `a: &x 1`, `b: [*x, 2]`, set `a`: the alias inside the sequence follows. -/
example : setValue (.int 5) .default
      (.map none [(.str ['a'], I (some ['x']) 1), (.str ['b'], .seq none [I (some ['x']) 1, I none 2])]) [[.key (.str ['a'])]]
    = .ok (.map none [(.str ['a'], I (some ['x']) 5), (.str ['b'], .seq none [I (some ['x']) 5, I none 2])]) := by
  decide +kernel

/-- `a: &x 1`, `b: [*x, 2]`, `c: 1`: the hypotheses of `set_eq_spec` / `set_preserves_anchorWF` are
met by a document with an anchored scalar, its alias inside a sequence and an equal bystander, for a
match list naming the alias, the anchor and the alias again. -/
def docX : Node := .map none [(.str ['a'], I (some ['x']) 1),
  (.str ['b'], .seq none [I (some ['x']) 1, I none 2]), (.str ['c'], I none 1)]
def addrsX : List Addr := [[.key (.str ['b']), .idx 0], [.key (.str ['a'])], [.key (.str ['b']), .idx 0]]
example : ScalarAnchors docX := scalarAnchors_of_below _ (by decide +kernel)
example : AnchorWF docX := anchorWF_of_below _ (by decide +kernel)
example : MatchedScalars docX addrsX := by
  intro a ha
  simp [addrsX] at ha
  rcases ha with rfl | rfl | rfl <;> exact ⟨by decide, by decide, I (some ['x']) 1, by decide +kernel, rfl⟩
example : setValue (.int 5) .default docX addrsX = .ok (setSpec docX addrsX (.int 5)) := by decide +kernel
example : setSpec docX addrsX (.int 5) = .map none [(.str ['a'], I (some ['x']) 5),
  (.str ['b'], .seq none [I (some ['x']) 5, I none 2]), (.str ['c'], I none 1)] := by decide +kernel
/-- why the model class is needed: an anchored CONTAINER with an alias, set through the anchor —
the alias copy keeps the old content (out of model: Python shares the object). -/
example : ¬ AnchorWF (setSpec (.map none [(.str ['a'], .seq (some ['x']) [I none 1]), (.str ['b'], .seq (some ['x']) [I none 1])])
    [[.key (.str ['a']), .idx 0]] (.int 5)) := by
  intro h
  have := h [.key (.str ['a'])] [.key (.str ['b'])] (.seq (some ['x']) [I none 5]) (.seq (some ['x']) [I none 1])
    (by simp) (by simp) (by decide +kernel) (by decide +kernel) rfl rfl
  revert this; decide +kernel

/-- a history over `docX` (anchored scalar + alias): set through the anchor, delete a list element,
create `n[1]`; and its plain-data reading — the `put` of the first step names the alias address too. -/
def histX : List Op := [.set [[.key (.str ['a'])]] (.int 5) .default, .delete [[.key (.str ['b']), .idx 1]],
  .create [.key ['n'], .index 1] (.str ['x']) .default]
example : docX.keysNodup = true := by decide +kernel
example : (runOps docX histX).plain = runPlain docX.plain
    [.put (fun y => y == [.key (.str ['a'])] || y == [.key (.str ['b']), .idx 0]) (.int 5),
     .remove [[.key (.str ['b']), .idx 1]],
     .graft [] (.map none [(.str ['a'], I none 5), (.str ['b'], .seq none [I none 5]), (.str ['c'], I none 1),
        (.str ['n'], .seq none [.scalar none (.str ['x']), .scalar none (.str ['x'])])]),
     .put (fun y => y == [.key (.str ['n']), .idx 1]) (.str ['x'])] := by decide +kernel
example : OpAbs docX (.set [[.key (.str ['a'])]] (.int 5) .default)
    (setAbs (.int 5) .default docX [[.key (.str ['a'])]]) :=
  .set (d' := setSpec docX [[.key (.str ['a'])]] (.int 5)) (by decide +kernel)
end Ypv.C03
