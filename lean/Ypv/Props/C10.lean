import Ypv.Lemmas.Anchors
/-!
# C10 — anchor conflicts in a merge follow the chosen policy and the result reloads

Model: `Ypv/Model/Anchors.lean` (`resolve` = `Merger._resolve_anchor_conflicts`, with object
identities on anchored scalars).  Policy definitions: `Ypv/Spec/Anchors.lean` (`finalL`, `finalR`,
`hasConflict`).  `ls = scan l`, `rs = scan r` are the name → node dictionaries.

Scope (as in the property): anchors on scalars.  `OneObj (occs d)` says a document is as the
loader delivers it: all occurrences of one anchor name are one object with one value.
-/
namespace Ypv.C10
open Ypv Ypv.Anchors

/-- `_calc_unique_anchor` terminates (within `known.length + 1` rounds) for every anchor name and
every set of known names, and the name it returns collides with no known name. -/
theorem unique_anchor_terminates_fresh (a : Str) (known : List Str) :
    ∃ f, calcUnique a known = some f ∧ f ∉ known := by
  have h := calcUnique_isSome a known
  cases hc : calcUnique a known with
  | none => rw [hc] at h; cases h
  | some f => exact ⟨f, rfl, calcUnique_fresh a known f hc⟩

/-- **stop refuses**: if some anchor name is defined in both documents with values that are not
equal, `anchors=stop` ends in a merge error (never a crash, never a merged document). -/
theorem stop_refuses (l r : ANode) (h : hasConflict (scan l) (scan r) = true) :
    resolve .stop l r = .error .merge := by
  unfold resolve
  exact resolveLoop_stop _ (scan l) (scan r) (l, r) h

/-- **every other case is accepted**: under `left`, `right`, `rename` always, and under `stop`
whenever no shared name differs in value — in particular *same-name anchors with equal values
are never a conflict*. -/
theorem accepted_unless_stop_conflict (mode : Mode) (l r : ANode)
    (h : ¬ (mode = .stop ∧ hasConflict (scan l) (scan r) = true)) :
    ∃ p, resolve mode l r = .ok p := by
  unfold resolve
  exact resolveLoop_isOk mode _ (scan l) (scan r) (l, r) h

/-- **the policies, occurrence by occurrence**: whenever resolution succeeds, the right document is
the image of `r` under `finalR` and the left document the image of `l` under `finalL`
(see `Spec/Anchors.lean`: `left` replaces conflicting right-hand nodes by the left-hand node,
`right` replaces conflicting left-hand nodes by the right-hand node, `rename` gives every occurrence
of a conflicting right-hand name the same fresh name and changes nothing else, equal values make the
left-hand occurrences share the right-hand object; every other occurrence, and all structure that is
not an anchored scalar, is unchanged).  A scalar-root left document is left as it is. -/
theorem resolve_is_policy (mode : Mode) (l r : ANode) (p : ANode × ANode)
    (h : resolve mode l r = .ok p) :
    p.1 = (if isContainer l then mapTags (finalL mode (scan l) (scan r)) l else l) ∧
    p.2 = mapTags (finalR mode (knownOf (scan l) (scan r)) (scan l) (scan r)) r := by
  rw [resolveLoop_closed mode _ (scan l) (scan_ok l).1 (scan r) (scan_ok r)
    (fun k hk => mem_knownOf _ _ k hk) (l, r) p h]
  exact ⟨rfl, rfl⟩

theorem no_conflict_of_not_hasConflict {ls rs : Dict} (h : hasConflict ls rs = false) :
    ∀ n la ra, ls.lookup n = some la → rs.lookup n = some ra → pyEq la.2 ra.2 = true := by
  intro n la ra h1 h2
  unfold hasConflict at h
  have := (List.any_eq_false.1 h) (n, ra) (mem_of_lookup h2)
  simp only [h1] at this
  simpa using this

/-- **one object per anchor name after resolution**: for loaded documents (`OneObj (occs ·)`), after a successful
resolution any two anchored scalars anywhere in the two documents that bear the same name are the
same object with the same value — under every policy.  (For `rename` this uses `freshInj`: distinct
conflicting names receive distinct fresh names, none of which collides with an existing name.)
The left document is assumed to be a container (a scalar-root left document is not updated by
`replace_anchor`; merging into a scalar document is not a case the property speaks about). -/
theorem resolved_oneObj (mode : Mode) (l r : ANode) (p : ANode × ANode)
    (hl : OneObj (occs l)) (hr : OneObj (occs r)) (hc : isContainer l = true)
    (h : resolve mode l r = .ok p) :
    OneObj (occs p.1 ++ occs p.2) := by
  have hinj : mode = .rename → FreshInj (knownOf (scan l) (scan r)) := fun _ => freshInj _
  obtain ⟨h1, h2⟩ := resolve_is_policy mode l r p h
  rw [h1, h2, hc]
  simp only [if_true, occs_mapTags]
  apply Ypv.Anchors.resolved_oneObj mode l r hl hr _ hinj
  intro hm
  apply no_conflict_of_not_hasConflict
  cases hcf : hasConflict (scan l) (scan r) with
  | false => rfl
  | true =>
    subst hm
    rw [stop_refuses l r hcf] at h
    cases h

/-- **the result serialises without a duplicate anchor**: any document assembled from nodes of the
two resolved documents (which is what the merge does with anchored scalars) makes the emitter define
each anchor name exactly once. -/
theorem merged_no_duplicate_anchor (l' r' d : ANode) (h : OneObj (occs l' ++ occs r'))
    (hsub : ∀ x ∈ occs d, x ∈ occs l' ++ occs r') : (emittedDefs d).Nodup :=
  defsFrom_nodup [] fun a ha b hb hab => h a (hsub a ha) b (hsub b hb) hab

/-- Under `left` and under `right`, after a successful resolution of loaded documents every anchored
scalar, in either document, whose name is defined in both documents with different values is the node
of the preferred side. -/
theorem side_reads_side (mode : Mode) (hmode : mode = .left ∨ mode = .right) (l r : ANode) (p : ANode × ANode)
    (hl : OneObj (occs l)) (hr : OneObj (occs r)) (hc : isContainer l = true) (h : resolve mode l r = .ok p)
    (n : Str) (la ra : Anchored) (h1 : (scan l).lookup n = some la) (h2 : (scan r).lookup n = some ra)
    (hne : pyEq la.2 ra.2 = false) :
    ∀ x ∈ occs p.1 ++ occs p.2, x.1.name = n → x = if mode = .left then la else ra := by
  obtain ⟨e1, e2⟩ := resolve_is_policy mode l r p h
  rw [e1, e2, hc, if_pos rfl, occs_mapTags, occs_mapTags]
  intro x hx hn
  rcases List.mem_append.1 hx with hx | hx
  · obtain ⟨a, ha, rfl⟩ := List.mem_map.1 hx
    rw [finalL_name _ _ _ (scan_ok r).1] at hn
    subst hn
    rw [finalL_of_lookups mode _ _ h1 h2, hne, if_neg Bool.false_ne_true]
    rcases hmode with rfl | rfl
    · exact hl a ha la (scan_lookup_mem h1).1 (scan_lookup_mem h1).2.symm
    · rfl
  · obtain ⟨b, hb, rfl⟩ := List.mem_map.1 hx
    rcases finalR_name_cases mode _ (scan l) (scan r) b (scan_ok l).1 with h' | ⟨hm, _⟩
    · rw [h'] at hn
      subst hn
      rw [finalR_of_lookups mode _ _ _ h1 h2, hne, if_neg Bool.false_ne_true]
      rcases hmode with rfl | rfl
      · rfl
      · exact hr b hb ra (scan_lookup_mem h2).1 (scan_lookup_mem h2).2.symm
    · rcases hmode with rfl | rfl <;> cases hm

/-- **left reads left / right reads right**: after a successful resolution of loaded documents
under `left` (resp. `right`), every anchored scalar, in either document, whose name is defined in
both documents with different values is the left-hand (resp. right-hand) node. -/
theorem left_reads_left (l r : ANode) (p : ANode × ANode) (hl : OneObj (occs l)) (hr : OneObj (occs r))
    (hc : isContainer l = true) (h : resolve .left l r = .ok p)
    (n : Str) (la ra : Anchored) (h1 : (scan l).lookup n = some la) (h2 : (scan r).lookup n = some ra)
    (hne : pyEq la.2 ra.2 = false) :
    ∀ x ∈ occs p.1 ++ occs p.2, x.1.name = n → x = la :=
  side_reads_side .left (.inl rfl) l r p hl hr hc h n la ra h1 h2 hne

theorem right_reads_right (l r : ANode) (p : ANode × ANode) (hl : OneObj (occs l)) (hr : OneObj (occs r))
    (hc : isContainer l = true) (h : resolve .right l r = .ok p)
    (n : Str) (la ra : Anchored) (h1 : (scan l).lookup n = some la) (h2 : (scan r).lookup n = some ra)
    (hne : pyEq la.2 ra.2 = false) :
    ∀ x ∈ occs p.1 ++ occs p.2, x.1.name = n → x = ra :=
  side_reads_side .right (.inr rfl) l r p hl hr hc h n la ra h1 h2 hne

/-- **rename is consistent**: under `rename`, every occurrence of a conflicting right-hand name
ends up with one and the same new name, which no node of either document bore before, keeping its
object and value; left-hand occurrences of that name keep reading the left value. -/
theorem rename_consistent (l r : ANode) (p : ANode × ANode) (hr : OneObj (occs r))
    (h : resolve .rename l r = .ok p)
    (n : Str) (la ra : Anchored) (h1 : (scan l).lookup n = some la) (h2 : (scan r).lookup n = some ra)
    (hne : pyEq la.2 ra.2 = false) :
    ∃ f, f ∉ knownOf (scan l) (scan r) ∧
      ∀ b ∈ occs r, b.1.name = n →
        finalR .rename (knownOf (scan l) (scan r)) (scan l) (scan r) b = ({ b.1 with name := f }, b.2) := by
  obtain ⟨f, hf, hfresh⟩ := unique_anchor_terminates_fresh n (knownOf (scan l) (scan r))
  refine ⟨f, hfresh, ?_⟩
  intro b hb hn
  subst hn
  rw [finalR_of_lookups .rename _ _ _ h1 h2, hne, if_neg Bool.false_ne_true]
  simp only [hf]

/-- Non-vacuity: a concrete conflicting pair; `stop` refuses, `rename` renames to `x_1`. -/
def exL : ANode := .map [(.str ['a'], .scalar (some ⟨['x'], 1⟩) (.int 1)), (.str ['b'], .scalar (some ⟨['x'], 1⟩) (.int 1))]
def exR : ANode := .map [(.str ['d'], .scalar (some ⟨['x'], 2⟩) (.int 2))]
example : hasConflict (scan exL) (scan exR) = true := by decide +kernel
example : OneObj (occs exL) := by
  intro a ha b hb _
  simp [exL, occs, occs.occsEntries] at ha hb
  rcases ha with rfl | rfl <;> rcases hb with rfl | rfl <;> rfl

end Ypv.C10
