import Ypv.Lemmas.Order
import Ypv.Lemmas.EvalKwLoc
/-!
# C01 — query results equal the documented segment semantics
-/
namespace Ypv.C01
open Ypv Ypv.Eval Ypv.Spec Gen

variable (mt : Matcher) (dsc : Desc) (rt : Node)

/-- **The evaluator computes the specification.**  For every matcher, every reading of search
attributes, every segment list and every start (a document node with any coordinates, or a virtual
slice list), `_get_required_nodes` (with its probing of following segments, its early `break`s, its
`traverse_lists` flag) yields exactly what the compositional `Spec.select` yields: the same nodes with
the same coordinates, in the same order, with the same multiplicity, followed by the same exception
(if any). -/
theorem required_eq_select : ∀ (segs : List ESeg) (r : Res),
    required mt dsc rt segs r = select mt dsc rt segs r := by
  intro segs
  induction segs with
  | nil => intro r; simp [required, select]
  | cons s rest ih =>
    intro r
    have ihf : required mt dsc rt rest = select mt dsc rt rest := funext ih
    cases r with
    | virt items => simp [required, select, stepRes, ihf]
    | real nc =>
      obtain ⟨n, c⟩ := nc
      by_cases hm : s = .matchAll
      · subst hm
        cases rest with
        | nil => simp [required, select, stepRes, stepSeg, reals]
        | cons nxt rest' =>
          simp only [required, select, stepRes, stepSeg, reals, bind_map, bind_ofList]
          rw [filterFirst_bind]
          · rw [← ihf, bindList_map]
            refine bindList_congr_mem _ (fun x _ => ?_)
            simp [required, stepRes]
          · intro x e hx
            simp [hx]
      · by_cases ht : s = .traverse
        · subst ht
          cases rest with
          | nil => simp [required, select, stepRes, stepSeg, leaves, walk_eq]
          | cons nxt rest' =>
            simp only [required, select, stepRes, stepSeg, bind_map, walk_eq, bindList_bind]
            by_cases hr : nxt.isTraverse = true
            · obtain ⟨t, ht⟩ := preorder_head n c
              simp [hr, ht, recursionGuard]
            · simp only [hr, recursionGuard, Bool.and_false, Bool.false_eq_true, if_false]
              refine bindList_congr_mem _ (fun x _ => ?_)
              rw [stepSeg_tl_false]
              by_cases hd : direct nxt x.1 = true
              · simp only [hd, if_true]
                rw [← ihf]
                exact ifAny_bind _ _ _ (fun e he => by simp [he])
              · simp [hd]
        · simp only [required, stepRes]
          rw [stepSeg_children mt dsc rt s rest n c hm ht, ihf]
          cases s with
          | matchAll => exact absurd rfl hm
          | traverse => exact absurd rfl ht
          | _ => simp only [select]

/-- **A keyword segment selects what `kwSearch` says** (`KeywordSearches.search_matches`, whose
specification is `Spec` of C13 — `Props/C13.lean`: `max_eq_spec`, `unique_eq_spec`, `parent_eq_spec`, …):
it raises what `kwSearch` raises; `[name()]` yields the node's own reference as a scalar with the
node's coordinates; otherwise the results carry exactly the addresses `kwSearch` returns, in that
order (or the step is out of model: an address that is neither the node, a child nor an ancestor
below the root). -/
theorem keyword_selects_kwSearch (inv : Bool) (k : Keyword) (p : Str) (n : Node) (c : Ctx) :
    match kwSearch n c.addr inv k p with
    | .error e => children mt dsc rt (.keyword inv k p) n c = Gen.fail e
    | .ok (.name _) => children mt dsc rt (.keyword inv k p) n c = Gen.one (.real (prefNode c.pref, c))
    | .ok (.nodes as) =>
        children mt dsc rt (.keyword inv k p) n c = Gen.fail .outOfModel
        ∨ ((children mt dsc rt (.keyword inv k p) n c).2 = none
            ∧ (children mt dsc rt (.keyword inv k p) n c).1.map W1.resAddr = as) := by
  simp only [children, kwStep]
  cases hs : kwSearch n c.addr inv k p with
  | error e => rfl
  | ok o =>
    cases o with
    | name r => rfl
    | nodes as =>
      simp only []
      cases hr : kwResolveAll rt n c as with
      | none => left; rfl
      | some l =>
        right
        refine ⟨rfl, ?_⟩
        simp only [Gen.map, Gen.ofList, List.map_map]
        have := (W1.kwResolveAll_spec hr).1
        simpa [Function.comp_def, W1.resAddr] using this

/-- … and at a located node of the document the nodes returned are the very nodes at those
addresses (a child of the node, the node itself, or its ancestor). -/
theorem keyword_results_at_addresses {d n : Node} {c : Ctx} (hl : Loc d n c) (inv : Bool) (k : Keyword) (p : Str)
    (as : List Addr) (hs : kwSearch n c.addr inv k p = .ok (.nodes as)) :
    ∀ r ∈ (children mt dsc d (.keyword inv k p) n c).1, ∃ x, r = .real x ∧ d.get? x.2.addr = some x.1 := by
  intro r hr
  simp only [children, kwStep, hs] at hr
  cases hra : kwResolveAll d n c as with
  | none => rw [hra] at hr; simp [Gen.fail, Gen.map] at hr
  | some l =>
    rw [hra] at hr
    simp only [Gen.map, Gen.ofList, List.mem_map] at hr
    obtain ⟨x, hx, rfl⟩ := hr
    obtain ⟨a, ha⟩ := (W1.kwResolveAll_spec hra).2 x hx
    exact ⟨x, rfl, W1.kwResolve_get hl ha⟩

/-- `[parent()]` after a key: the model climbs to the hash (kernel-checked). -/
example : (select (fun _ _ _ => .ok true) Desc.none
      (.map none [(.str ['a'], .map none [(.str ['b'], .scalar none (.int 1))])])
      [.key ['a'], .key ['b'], .keyword false .parent ['2']]
      (.real (.map none [(.str ['a'], .map none [(.str ['b'], .scalar none (.int 1))])], Ctx.root))).1.map W1.resAddr
    = [[]] := by decide +kernel

/-- `Processor.get_nodes(path, mustexist=True)` delivers `Spec.select` of the path on the document
(nothing for a null document), and raises "unmatched" after an empty selection. -/
theorem getRequired_eq_select (segs : List ESeg) (d : Node) :
    getRequired mt dsc segs d =
      if d.evIsNull then Gen.nil else
      Gen.append (select mt dsc d segs (.real (d, Ctx.root)))
        (if (select mt dsc d segs (.real (d, Ctx.root))).1.isEmpty then Gen.fail (.ypath .unmatched) else Gen.nil) := by
  simp [getRequired, required_eq_select]

/-- `Processor.exists(path)` is true exactly when the specification selects at least one node
(and raises exactly when the selection raises). -/
theorem exists_iff_select_nonempty (segs : List ESeg) (d : Node) :
    existsQ mt dsc segs d =
      if d.evIsNull then .ok false else
      match (select mt dsc d segs (.real (d, Ctx.root))).collapse with
      | .ok l => .ok (!l.isEmpty)
      | .error e => .error e := by
  simp only [existsQ, required_eq_select]
  split <;> rfl

/-- "A path that already exists": along the evaluation no creating segment (key, index, slice,
anchor) comes up empty, and no null node is selected before the last segment.  Decidable. -/
def allExist : List ESeg → Res → Bool
  | [], _ => true
  | s :: rest, r =>
    let g := stepRes mt dsc rt s rest r
    !(g.1.isEmpty && g.2.isNone && s.creates)
      && g.1.all (fun r' => (rest.isEmpty || !r'.isNullNode) && allExist rest r')

/-- An optional-match query on a path that already exists answers like the required-match query. -/
theorem optional_eq_required_of_exists : ∀ (segs : List ESeg) (r : Res),
    allExist mt dsc rt segs r = true → Eval.optional mt dsc rt segs r = required mt dsc rt segs r := by
  intro segs
  induction segs with
  | nil => intro r _; rfl
  | cons s rest ih =>
    intro r h
    simp only [allExist, Bool.and_eq_true, List.all_eq_true, Bool.or_eq_true,
      Bool.not_eq_eq_eq_not, Bool.not_true] at h
    obtain ⟨h1, h2⟩ := h
    simp only [Eval.optional, required]
    -- on the results the two continuations agree: a null is relayed only after the last segment
    rw [bind_congr_mem (g := required mt dsc rt rest) _ (fun x hx => by
      obtain ⟨hn, ha⟩ := h2 x hx
      rw [ih x ha]
      split
      · rename_i hx0
        rcases hn with he | hf
        · rw [List.isEmpty_iff.mp he]; rfl
        · rw [hx0] at hf; cases hf
      · rfl)]
    -- and where the code would create, the step has raised already
    generalize stepRes mt dsc rt s rest r = g at h1 ⊢
    split
    · rename_i hc
      rw [Bool.and_eq_true, List.isEmpty_iff] at hc
      obtain ⟨l, e⟩ := g
      cases hc.1
      cases e with
      | none => simp [hc.2] at h1
      | some e => rfl
    · exact append_nil _

example : allExist (fun _ _ _ => .ok true) Desc.none (.scalar none .null) [.key ['a'], .index 0]
    (.real (.map none [(.str ['a'], .seq none [.scalar none (.int 1)])], Ctx.root)) = true := by
  decide +kernel

/-- **Document order, none twice.**  For a well-formed document and a path without `**`, slices and
keyword searches (`ESeg.ordered`), the addresses of the selected nodes form a subsequence of the document's addresses in document
order (pre-order), and no address occurs twice.  (More is proved in `ord_required`: the subtrees of the
results are pairwise disjoint.) -/
theorem select_sorted_nodup {d : Node} (hd : d.WF) (segs : List ESeg) (hs : ∀ s ∈ segs, s.ordered = true) :
    ((flatR (select mt dsc rt segs (.real (d, Ctx.root))).1).map (·.2.addr)).Sublist (addrsAll d [])
    ∧ ((flatR (select mt dsc rt segs (.real (d, Ctx.root))).1).map (·.2.addr)).Nodup := by
  rw [← required_eq_select]
  have h := ord_required (mt := mt) (dsc := dsc) (rt := rt) segs hs d Ctx.root
  have hsub := List.Sublist.trans (addrs_sublist_flatMap_sub _) h
  exact ⟨hsub, List.Nodup.sublist hsub (addrsAll_nodup d hd [])⟩

/-- With `**` the `Nodup` half of `select_sorted_nodup` does NOT hold, for the specification and for the implementation alike:
after `**` a scalar is selected once as the value of a matching key of its parent and once as a
matching scalar itself.  `**[.=x]` on `{x: x}` selects the node at `x` twice (reproduced on the real
code; recorded in notes/C01.md as a reading of "`**` matches every node for which the following
segments match"). -/
example :
    (flatR (select (fun _ n t => match n with | .scalar _ (.str s) => .ok (s == t) | _ => .ok false) Desc.none
      (.scalar none .null) [.traverse, .search false .equals ['.'] ['x']]
      (.real (.map none [(.str ['x'], .scalar none (.str ['x']))], Ctx.root))).1).map (·.2.addr)
    = [[.key (.str ['x'])], [.key (.str ['x'])]] := by decide +kernel

/-! ## What the per-kind children are (sanity of the table in `Spec/Select.lean`) -/

/-- `[n]` / a bare integer key on a list is Python indexing: the element at `n` (from the end when
negative) when `-len ≤ n < len`, nothing otherwise — never an exception. -/
theorem elemAt_spec (items : List Node) (i : Int) (c : Ctx) :
    elemAt items i c =
      if h : inRange items.length i = true then
        match items[normIdx items.length i]? with
        | some x => Gen.one (x, c.child (.idx (normIdx items.length i)) (.idx i) (idxSection i))
        | none => Gen.nil
      else Gen.nil := by
  unfold elemAt
  by_cases h : inRange items.length i = true
  · obtain ⟨x, hx⟩ := pyGetItem_inRange items i h
    have := pyGetItem_spec items i x h hx
    simp [h, hx, this]
  · simp [h]

/-- A non-integer key on a list passes through to every element, in order. -/
theorem keyStep_passThrough (k : Str) (a : Option Str) (items : List Node) (c : Ctx) (hk : pyInt? k = none) :
    keyStep k true (.seq a items) c
      = Gen.bindList (fun x => keyStep k true x.1 x.2) (seqKidsFrom c items 0) := by
  simp only [keyStep, hk, passThrough_kids, if_true]

/-- The positions a list slice selects are those of Python's `data[lo:hi]`: consecutive, starting at the
clamped `lo`, ending before the clamped `hi`. -/
theorem sliceIndices_spec (len : Nat) (lo hi : Int) :
    sliceIndices len lo hi = (List.range (sliceStart len hi - sliceStart len lo)).map (· + sliceStart len lo)
    ∧ sliceStart len lo ≤ len ∧ sliceStart len hi ≤ len :=
  ⟨rfl, sliceStart_le len lo, sliceStart_le len hi⟩

example : sliceIndices 3 0 (-1) = [0, 1] := by decide +kernel
example : sliceIndices 2 1 9 = [1] := by decide +kernel
example : sliceIndices 4 (-3) (-1) = [1, 2] := by decide +kernel
