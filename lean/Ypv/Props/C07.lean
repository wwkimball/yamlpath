import Ypv.Lemmas.Search
import Ypv.Lemmas.SearchPath
import Ypv.Lemmas.SearchNodup
/-!
# C07 — yaml-paths search is sound and complete, and every printed path resolves

Model: `Ypv.Search.search` (`Model/Search.lean`, mirror of `search_for_paths` / `yield_children` /
`Searches.search_anchor` as they read after `fixes/C07-1 … 7`).  Specification: `Spec.found`
(`Spec/Search.lean`): one pass over the positions of the document in document order with one rule
per position.  Documents are `SNode` (= `Node` plus anchored keys and merge keys; `ofNode` embeds
`Node`), the term test is any `μ : Scalar → Bool` (the driver instantiates it with
`Ypv.searchMatches` + the inversion test), the options are all seven Booleans of `Opts`
(`optsOfCli` is `main()`'s option handling).
-/
namespace Ypv.C07
open Ypv Ypv.Search Ypv.Search.Rr

/-- **Soundness and completeness.**  For every document, every term test and every option mix the
addresses the search reports, in order, are exactly `Spec.found`: every value — with key-name
search every key, with reference-name search every anchor / merge reference — that satisfies the
expression and is reached by the pass; an aliased repeat of an anchored value only when value
aliases are asked for, the name of an aliased key only when key aliases are asked for; nothing else. -/
theorem search_eq_found (c : Ctx) (d : SNode) : (search c d).map Hit.addr = Spec.found c d := by
  cases d with
  | scalar a v =>
    simp only [search, sNode, Spec.found, rootFix]
    by_cases h : v = .null
    · simp [h]
    · simp [h, valueHit_addr]
  | seq a items => exact search_container c rfl
  | map a o m r => exact search_container c rfl
  | set a ms => exact search_container c rfl

/-- the same for the common document type `Node` -/
theorem search_eq_found_node (c : Ctx) (d : Node) :
    (search c (ofNode d)).map Hit.addr = Spec.found c (ofNode d) := search_eq_found c (ofNode d)

/-- **Nothing else is reported**: every reported address is the address of a position of the
document (or the root of a scalar document). -/
theorem found_is_position (c : Ctx) (d : SNode) (a : SAddr) (h : a ∈ (search c d).map Hit.addr) :
    a = [] ∨ ∃ p ∈ Spec.flat d [], p.addr = a := by
  rw [search_eq_found] at h
  cases d with
  | scalar _ v => exact Or.inl ((mem_ite_singleton h).resolve_right List.not_mem_nil)
  | _ =>
    obtain ⟨p, hp, e⟩ := List.mem_map.mp ((Nd.scan_sublist c _ [] 0).subset h)
    exact Or.inr ⟨p, hp, e⟩

/-- **In document order.**  The reported addresses are a sub-list (`List.Sublist`: same order, some
left out) of the addresses of the positions of the document in document order — for every document,
term test and option mix.  (A scalar document reports at most its root.) -/
theorem search_in_document_order (c : Ctx) (d : SNode) (hd : d.isContainer = true) :
    ((search c d).map Hit.addr).Sublist ((Spec.flat d []).map Spec.Pos.addr) := by
  rw [search_eq_found]
  cases d with
  | scalar _ _ => cases hd
  | _ => exact Nd.scan_sublist c _ [] 0

/-- **Each at most once.**  For a well-formed document (`Spec.wfKeys`: every mapping has pairwise
different keys — own and inherited entries together —, every set pairwise different members; that is
what YAML mappings / sets are) no address is reported twice — whatever the term test and the options,
aliased repeats asked for or not (an aliased repeat is another position: the same value at another
address).  Proof: `scan` / `leaves` list a sub-list of the position addresses (`Nd.scan_sublist`,
`Nd.leaves_sublist`) and the position addresses of a well-formed document are pairwise different
(`Nd.flat_nodup`, mutual induction: addresses below different children differ in the step after the
common prefix). -/
theorem search_reports_once (c : Ctx) (d : SNode) (hw : Spec.wfKeys d = true) :
    ((search c d).map Hit.addr).Nodup := by
  cases d with
  | scalar _ v =>
    rw [search_eq_found, Spec.found]
    split
    · exact List.nodup_cons.mpr ⟨List.not_mem_nil, List.nodup_nil⟩
    · exact List.nodup_nil
  | _ =>
    rw [search_container c rfl]
    exact (Nd.flat_nodup _ [] hw).sublist (Nd.scan_sublist c _ [] 0)

/-- the position addresses of a well-formed document are pairwise different -/
theorem positions_distinct (d : SNode) (ad : SAddr) (hw : Spec.wfKeys d = true) :
    ((Spec.flat d ad).map Spec.Pos.addr).Nodup := Nd.flat_nodup d ad hw

/-- **Expansion.**  With `expand_children` on, a matched container is replaced by exactly the
list `Spec.leaves` of the positions below it: what "yield the match" (`emit`) contributes for a
matched container `n` at address `a'` is the expansion pass over `flat n a'` … -/
theorem expand_is_leaves (c : Ctx) (hx : c.o.expand = true) (n : SNode) (hn : n.isContainer = true)
    (tmp : Str) (a' : SAddr) (seen : List Str) :
    (emit c n tmp a' seen).1.map Hit.addr = (Spec.leaves c seen 0 (Spec.flat n a')).1 := by
  rw [yc_flat c hn tmp, emit, if_pos hx]

/-- … and that pass lists only leaves: every listed address is the address of a position below the
matched parent that is not a container (a scalar value or a set member); the parent itself is not
among them. -/
theorem expand_lists_leaves_only (c : Ctx) (n : SNode) (a' : SAddr) (seen : List Str) (a : SAddr)
    (h : a ∈ (Spec.leaves c seen 0 (Spec.flat n a')).1) :
    ∃ p ∈ Spec.flat n a', p.addr = a ∧ p.kind ≠ .container := by
  obtain ⟨p, hp, e⟩ := List.mem_map.mp ((Nd.leaves_sublist c _ seen 0).subset h)
  exact ⟨p, (List.mem_filter.mp hp).1, e, of_decide_eq_true (List.mem_filter.mp hp).2⟩

/-- without expansion a matched position is reported as itself -/
theorem no_expand_is_self (c : Ctx) (hx : c.o.expand = false) (n : SNode) (tmp : Str) (a' : SAddr)
    (seen : List Str) : (emit c n tmp a' seen).1.map Hit.addr = [a'] := by
  simp [emit, hx]

/-- **Every hit carries the text of a walk from the root to its address**: the unprinted text (what
`search_for_paths` yields before `str()`) is `pathText` of the steps along existing children to the hit's
address.  Unconditional; `Rr.s_good` is the mutual induction over the search functions. -/
theorem search_paths_walk (c : Ctx) (d : SNode) (h : Hit) (hh : h ∈ search c d) :
    ∃ ps, Walk d h.addr ps ∧ h.path = pathText c [] ps := by
  obtain ⟨r, ps, h1, h2, h3⟩ := s_good c d [] [] [] h hh
  exact ⟨ps, (h1.trans (List.nil_append r)) ▸ h2, h3⟩

/-- **Every printed path resolves to exactly the matched node.**  Take any hit of the search: its path
text `h.path` is printed the way `yaml-paths` prints it (`printed` = `str(YAMLPath(text))`, the C08
object model).  Printing succeeds; the printed text `S`, parsed by the parser model in the notation it
was printed in, is a list `segs` of KEY / INDEX / ANCHOR segments; and the resolver `resolve`
(`Spec/SearchResolve.lean`: `_get_nodes_by_key / _by_index / _by_anchor` on `SNode`) follows `segs`
from the root to exactly one address — the address the hit was reported for.

Hypothesis `okAddr`: none of the recorded finding classes lies on the way to the address (all clauses
decidable, local to the parents on the way): no other key of a mapping on the way is written the same
(**K1**, `1` next to `'1'`); keys and anchor names on the way are expressible in the notation (**K2**:
not empty, no `*`, not starting with `&`, …) and hold no two adjacent backslashes (**K6**, found by this
proof: `ensure_escaped` takes the pair for an escaped backslash); a merge reference's name is carried by nothing else in the mapping
(its source may be empty since fix 87356f5, formerly **K5**); an anchored sequence element is the only
one of its sequence with that anchor (an aliased repeat in the same sequence is one Python object at two
addresses — `[&a]` then denotes both).  Witnesses of K1 / K2 / K6 below.

Proof: `search_paths_walk` (the text is `pathText` of a walk to the address), `escapePathSection_eq` (the
twelve `ensure_escaped` passes and the leading-slash rule are the token writer of C08), `roundtrip_texts`
(C08's engine: parse unescaped → render → parse) and `resolve_walk`. -/
theorem search_paths_reresolve (c : Ctx) (d : SNode) (h : Hit) (hh : h ∈ search c d)
    (hok : okAddr (liveIn d) d h.addr = true) :
    ∃ S segs, printed h.path = .ok S ∧ parseWith c.o.fslash true S = .ok segs ∧
      resolve (liveIn d) d segs = [h.addr] := by
  obtain ⟨ps, hw, hp⟩ := search_paths_walk c d h hh
  obtain ⟨hr, hs⟩ := resolve_walk (liveIn d) hw hok
  obtain ⟨S, h1, h2⟩ := printed_parse c ps hs (walk_noInner hw)
  exact ⟨S, ps.map PStep.seg, hp ▸ h1, h2, hr⟩

/-- **`escape_path_section` is the C08 writer's escaping**: for every text without two adjacent
backslashes the 12-pass `ensure_escaped` fold escapes exactly the special characters (`escText`), plus —
in dot notation — a leading `/` (fix e9c869e). -/
theorem escapePathSection_is_escText (sep : Char) (hsep : sep = '.' ∨ sep = '/') (t : Str)
    (h : noDbl t = true) :
    escapePathSection sep t =
      (if (escText sep t).head? = some '/' ∧ sep ≠ '/' then '\\' :: escText sep t else escText sep t) := by
  unfold escapePathSection
  simp only [ensureEscaped_section hsep t h]

/-- **`--pathsep auto` prints dot notation.**  `yaml-paths` accepts three separators (`Sep`); everything the
search and `escape_path_section` ask of the one they are given is `is FSLASH` / `str()`, which AUTO answers as
DOT does — so a search run with AUTO is, hit for hit and character for character, the search run with DOT
(leading-slash protection of a top-level key included). -/
theorem search_auto_is_dot (o : Opts) (μ : Scalar → Bool) (d : SNode) :
    search ⟨o.withSep .auto, μ⟩ d = search ⟨o.withSep .dot, μ⟩ d := rfl

/-- **Every printed path resolves, whichever of the three separators `--pathsep` hands to the search**:
`search_paths_reresolve` for the options `o.withSep s`; the notation the path was printed in — and is parsed in —
is forward-slash for FSLASH and dot for DOT and for AUTO. -/
theorem search_paths_reresolve_sep (s : Sep) (o : Opts) (μ : Scalar → Bool) (d : SNode) (h : Hit)
    (hh : h ∈ search ⟨o.withSep s, μ⟩ d) (hok : okAddr (liveIn d) d h.addr = true) :
    ∃ S segs, printed h.path = .ok S ∧ parseWith s.isFslash true S = .ok segs ∧
      resolve (liveIn d) d segs = [h.addr] :=
  search_paths_reresolve ⟨o.withSep s, μ⟩ d h hh hok

/-! ## Concrete instances (the hypotheses are met, the functions compute) -/

/-- `a: &x {k: v}`, `b: *x`, `c: [&s v, *s]` -/
def demoDoc : SNode :=
  .map none
    [(⟨none, .str "a".toList⟩, .map (some "x".toList) [(⟨none, .str "k".toList⟩, .scalar none (.str "v".toList))] [] []),
     (⟨none, .str "b".toList⟩, .map (some "x".toList) [(⟨none, .str "k".toList⟩, .scalar none (.str "v".toList))] [] []),
     (⟨none, .str "c".toList⟩, .seq none [.scalar (some "s".toList) (.str "v".toList),
                                          .scalar (some "s".toList) (.str "v".toList)])] [] []

/-- the term test `=v` -/
def demoCtx (o : Opts) : Ctx := ⟨o, fun s => s == .str "v".toList⟩

/-- default options: the aliased repeats `b.k` and `c[1]` are not reported -/
example : (search (demoCtx {}) demoDoc).map Hit.path = ["a.k".toList, "c[&s]".toList] := by decide +kernel
/-- with value aliases included they are -/
example : (search (demoCtx { inclValueAliases := true }) demoDoc).map Hit.path =
    ["a.k".toList, "b.k".toList, "c[&s]".toList, "c[&s]".toList] := by decide +kernel
example : Spec.found (demoCtx {}) demoDoc = [[.key (.str "a".toList), .key (.str "k".toList)],
    [.key (.str "c".toList), .idx 0]] := by decide +kernel
/-- key-name search with expansion: the matched key `a` is replaced by its leaf -/
example : (search ⟨{ searchKeys := true, expand := true, fslash := true }, fun s => s == .str "a".toList⟩ demoDoc).map
    Hit.path = ["/a/k".toList] := by decide +kernel

/-! ## Known finding: a key and its text as another key (`{1: x, '1': y}`)

The path notation writes the integer key `1` and the string key `'1'` the same way; the search
reports two different addresses under one path text (so the printed path cannot denote both). -/
def clashDoc : SNode :=
  .map none [(⟨none, .int 1⟩, .scalar none (.str "x".toList)), (⟨none, .str "1".toList⟩, .scalar none (.str "y".toList))] [] []

example : (search ⟨{}, fun _ => true⟩ clashDoc) =
    [⟨"1".toList, [.key (.int 1)]⟩, ⟨"1".toList, [.key (.str "1".toList)]⟩] := by decide +kernel

/-! ## Re-resolution: the hypotheses are met, the chain computes; witnesses of the excluded classes -/

/-- print, parse in the notation of the search, resolve: does the hit come back as exactly its address? -/
def reresolves (c : Ctx) (d : SNode) (h : Hit) : Bool :=
  match printed h.path with
  | .ok S =>
    match parseWith c.o.fslash true S with
    | .ok segs => resolve (liveIn d) d segs == [h.addr]
    | .error _ => false
  | .error _ => false

/-- `a.b: [&s x, y]`, `/k: {k: &v v, <<: *b}` (merge reference known as `b`, inherited entry `i`),
`b: &b {i: w}`, `s t: !!set {m/n}`, `1: x` -/
def rrDoc : SNode :=
  .map none
    [(⟨none, .str "a.b".toList⟩, .seq none [.scalar (some "s".toList) (.str "x".toList), .scalar none (.str "y".toList)]),
     (⟨none, .str "/k".toList⟩, .map none [(⟨none, .str "k".toList⟩, .scalar (some "v".toList) (.str "v".toList))]
        [(⟨none, .str "i".toList⟩, .scalar none (.str "w".toList))] ["b".toList]),
     (⟨none, .str "b".toList⟩, .map (some "b".toList) [(⟨none, .str "i".toList⟩, .scalar none (.str "w".toList))] [] []),
     (⟨none, .str "s t".toList⟩, .set none [⟨none, .str "m/n".toList⟩]),
     (⟨none, .int 1⟩, .scalar none (.str "x".toList))] [] []

def allCtx (fslash : Bool) : Ctx :=
  ⟨{ searchKeys := true, searchAnchors := true, inclValueAliases := true, fslash := fslash }, fun _ => true⟩
def valCtx (fslash : Bool) : Ctx := ⟨{ inclValueAliases := true, searchAnchors := true, fslash := fslash }, fun _ => true⟩

/-- the hits with value and reference-name search, dot notation (the merge reference is yielded as
`\/k.[&b]` and printed `\/k[&b]`) … -/
def rrHits : List Hit :=
  [⟨"a\\.b[&s]".toList, [.key (.str "a.b".toList), .idx 0]⟩, ⟨"a\\.b[1]".toList, [.key (.str "a.b".toList), .idx 1]⟩,
   ⟨"\\/k.k".toList, [.key (.str "/k".toList), .key (.str "k".toList)]⟩,
   ⟨"\\/k.i".toList, [.key (.str "/k".toList), .key (.str "i".toList)]⟩,
   ⟨"\\/k.[&b]".toList, [.key (.str "/k".toList), .mref 0]⟩, ⟨"b".toList, [.key (.str "b".toList)]⟩,
   ⟨"s\\ t.m/n".toList, [.key (.str "s t".toList), .member (.str "m/n".toList)]⟩, ⟨"1".toList, [.key (.int 1)]⟩]
theorem rrDoc_search : search (valCtx false) rrDoc = rrHits := by decide +kernel
example : search (valCtx false) rrDoc = rrHits := rrDoc_search
example : printed "\\/k.[&b]".toList = .ok "\\/k[&b]".toList ∧
    printed "s\\ t.m/n".toList = .ok "s\\ t.m/n".toList := by decide +kernel
/-- … every one of them meets the hypothesis of `search_paths_reresolve` and comes back as its address -/
theorem rrHits_reresolve :
    (rrHits.all fun h => okAddr (liveIn rrDoc) rrDoc h.addr && reresolves (valCtx false) rrDoc h) = true := by
  decide +kernel
example : (rrHits.all fun h => okAddr (liveIn rrDoc) rrDoc h.addr && reresolves (valCtx false) rrDoc h) = true :=
  rrHits_reresolve
/-- the same in forward-slash notation -/
example : (search (valCtx true) rrDoc).map Hit.path =
    ["/a.b[&s]".toList, "/a.b[1]".toList, "/\\/k/k".toList, "/\\/k/i".toList, "/\\/k/[&b]".toList, "/b".toList,
     "/s\\ t/m\\/n".toList, "/1".toList] := by decide +kernel
example : reresolves (valCtx true) rrDoc ⟨"/\\/k/[&b]".toList, [.key (.str "/k".toList), .mref 0]⟩ = true ∧
    reresolves (valCtx true) rrDoc ⟨"/s\\ t/m\\/n".toList, [.key (.str "s t".toList), .member (.str "m/n".toList)]⟩ = true := by
  decide +kernel

/-- `--pathsep auto`: the top-level key `/k` is printed with its protective backslash, as in dot notation, and
every hit comes back as its address when the printed text is read in dot notation -/
example : (search ⟨({ inclValueAliases := true, searchAnchors := true } : Opts).withSep .auto, fun _ => true⟩ rrDoc) = rrHits :=
  rrDoc_search
example : (rrHits.all fun h => reresolves ⟨({ inclValueAliases := true, searchAnchors := true } : Opts).withSep .auto, fun _ => true⟩ rrDoc h) = true :=
  List.all_eq_true.mpr fun h hh => (Bool.and_eq_true_iff.mp (List.all_eq_true.mp rrHits_reresolve h hh)).2

/-- **K1** (`{1: x, '1': y}`): the hypothesis fails, and the printed `1` resolves to both entries -/
example : okAddr (liveIn clashDoc) clashDoc [.key (.int 1)] = false ∧
    reresolves ⟨{}, fun _ => true⟩ clashDoc ⟨"1".toList, [.key (.int 1)]⟩ = false ∧
    resolve (liveIn clashDoc) clashDoc [(.key, .str "1".toList)] = [[.key (.int 1)], [.key (.str "1".toList)]] := by
  decide +kernel

/-- **K2** (`{'a*': a}`): `a*` is printed, which is a wildcard search, not a key -/
def starDoc : SNode := .map none [(⟨none, .str "a*".toList⟩, .scalar none (.str "a".toList))] [] []
example : search ⟨{}, fun _ => true⟩ starDoc = [⟨"a*".toList, [.key (.str "a*".toList)]⟩] ∧
    okAddr (liveIn starDoc) starDoc [.key (.str "a*".toList)] = false ∧
    reresolves ⟨{}, fun _ => true⟩ starDoc ⟨"a*".toList, [.key (.str "a*".toList)]⟩ = false := by decide +kernel

/-- an empty merge source (`z: &z {}`, `m: {<<: *z}`; fix 87356f5): the hypothesis holds and the printed
path comes back as its address -/
def emptySrcDoc : SNode :=
  .map none [(⟨none, .str "z".toList⟩, .map (some "z".toList) [] [] []),
             (⟨none, .str "m".toList⟩, .map none [] [] ["z".toList])] [] []
example : search (valCtx false) emptySrcDoc =
      [⟨"z".toList, [.key (.str "z".toList)]⟩, ⟨"m.[&z]".toList, [.key (.str "m".toList), .mref 0]⟩] ∧
    okAddr (liveIn emptySrcDoc) emptySrcDoc [.key (.str "m".toList), .mref 0] = true ∧
    reresolves (valCtx false) emptySrcDoc ⟨"m.[&z]".toList, [.key (.str "m".toList), .mref 0]⟩ = true := by
  decide +kernel

/-- **K6**: a key with two adjacent backslashes.
`escape_path_section('a\\b')` (four characters) is `a\\b` unchanged — the first `ensure_escaped` pass takes
the pair for an escaped backslash — and that text denotes the key `a\b` (three characters). -/
def dblDoc : SNode := .map none [(⟨none, .str ['a', '\\', '\\', 'b']⟩, .scalar none (.str "x".toList))] [] []
example : escapePathSection '.' ['a', '\\', '\\', 'b'] = ['a', '\\', '\\', 'b'] ∧
    escText '.' ['a', '\\', '\\', 'b'] = ['a', '\\', '\\', '\\', '\\', 'b'] ∧
    parse true ['a', '\\', '\\', 'b'] = .ok [(.key, .str ['a', '\\', 'b'])] ∧
    search ⟨{}, fun _ => true⟩ dblDoc = [⟨['a', '\\', '\\', 'b'], [.key (.str ['a', '\\', '\\', 'b'])]⟩] ∧
    okAddr (liveIn dblDoc) dblDoc [.key (.str ['a', '\\', '\\', 'b'])] = false ∧
    reresolves ⟨{}, fun _ => true⟩ dblDoc ⟨['a', '\\', '\\', 'b'], [.key (.str ['a', '\\', '\\', 'b'])]⟩ = false := by
  decide +kernel

/-! ## Each at most once: the hypothesis is met; without it the statement fails -/

example : Spec.wfKeys demoDoc = true ∧ Spec.wfKeys rrDoc = true ∧ Spec.wfKeys clashDoc = true := by decide +kernel
/-- with value aliases asked for the aliased repeats are reported — at their own addresses -/
example : ((search (demoCtx { inclValueAliases := true }) demoDoc).map Hit.addr) =
    [[.key (.str "a".toList), .key (.str "k".toList)], [.key (.str "b".toList), .key (.str "k".toList)],
     [.key (.str "c".toList), .idx 0], [.key (.str "c".toList), .idx 1]] := by decide +kernel
/-- not a YAML mapping (`{a: v, a: v}`): the hypothesis fails and the address is reported twice -/
def dupKeyDoc : SNode :=
  .map none [(⟨none, .str "a".toList⟩, .scalar none (.str "v".toList)),
             (⟨none, .str "a".toList⟩, .scalar none (.str "v".toList))] [] []
example : Spec.wfKeys dupKeyDoc = false ∧
    (search (demoCtx {}) dupKeyDoc).map Hit.addr = [[.key (.str "a".toList)], [.key (.str "a".toList)]] := by
  decide +kernel

end Ypv.C07
