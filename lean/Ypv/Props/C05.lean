import Ypv.Lemmas.Merge
/-!
# C05 — merging two documents yields the policy-defined result for every option mix

Theorems about `Ypv.Merge.mergeWith` (the model of `Merger.merge_with` at the root path as the
code stands after the proposed fixes C05-1 … C05-5), for **every** configuration `cfg`
(command-line values, `[defaults]`, `[rules]`, `[keys]`, any `typed_value` function — universally
quantified, not enumerated), every left-hand and right-hand document.
-/
namespace Ypv.C05
open Ypv Ypv.Merge Ypv.Merge.Spec

theorem listToSet_nc (items : List Node) : ∀ acc : List Key, NoCrash (listToSet items acc) := by
  induction items with
  | nil => exact .ok
  | cons ele rest ih =>
    intro acc
    cases ele with
    | scalar a v =>
      simp only [listToSet, setAdd]
      cases scalarKey? v with
      | none => exact .error rfl
      | some k => exact ih _
    | _ => exact .error rfl

section
variable (env : Env) (l : Node) (ra : Option Str)

theorem mergeDicts_ends (lv par : Node) (res : List (Key × Node)) :
    Ends (tagOf · = .ok ()) (mergeDicts env lv par res) :=
  dictWrap_ends lv (dictLoop env par res) (dictLoop_nc env par res)

/-- The tag read after `_insert_dict/_list/_set` is that of the left-hand root, which is a container
whenever the insertion succeeded. -/
theorem rootTagSync_nc (x : Except MErr Node) (h : Ends (fun _ => l.isScalar = false) x) :
    NoCrash (rootTagSync l x) := by
  cases x with
  | error e => exact h.noCrash
  | ok m => rw [rootTagSync_of_container h]; exact NoCrash.ok m

theorem insertDict_ends (res : List (Key × Node)) :
    Ends (fun _ => l.isScalar = false) (insertDict env l ra res) := by
  unfold insertDict
  cases l with
  | seq a xs => exact (mergeLists_ends env _ none _ _).mono fun _ _ => rfl
  | map a xs =>
    simp only
    cases hm : hashMode env ⟨.map ra res, none, none⟩ with
    | error e => exact hashMode_nc.not_crash hm
    | ok mode =>
      cases mode with
      | deep => exact (mergeDicts_ends env _ _ _).mono fun _ _ => rfl
      | _ => rfl
  | _ => rfl

theorem insertList_ends (ritems : List Node) :
    Ends (fun _ => l.isScalar = false) (insertList env l ra ritems) := by
  unfold insertList
  cases l with
  | seq a xs => exact (mergeLists_ends env _ ra _ _).mono fun _ _ => rfl
  | set a xs =>
    simp only
    cases hs : listToSet ritems [] with
    | error e => exact (listToSet_nc ritems []).not_crash hs
    | ok ms => exact (mergeSets_ends env _ none ms _).mono fun _ _ => rfl
  | _ => rfl

theorem insertSet_ends (rms : List Key) :
    Ends (fun _ => l.isScalar = false) (insertSet env l ra rms) := by
  unfold insertSet
  cases l with
  | scalar a v => rfl
  | map a xs => exact (mergeDicts_ends env _ _ _).mono fun _ _ => rfl
  | seq a xs => exact (mergeLists_ends env _ none _ _).mono fun _ _ => rfl
  | set a xs => exact (mergeSets_ends env _ ra rms _).mono fun _ _ => rfl

theorem insertScalar_nc (v : Scalar) :
    NoCrash (insertScalar env l ra v) := by
  unfold insertScalar
  cases l with
  | scalar a v' => exact .ok _
  | map a xs => exact .error rfl
  | seq a xs => exact .ok _
  | set a xs =>
    simp only
    cases scalarKey? v with
    | none => exact .error rfl
    | some k =>
      simp only
      cases hm : setMode env ⟨.scalar ra v, none, none⟩ with
      | error e => exact .error (setMode_nc.not_crash hm)
      | ok mode => cases mode <;> exact .ok _

end

/-- For every configuration and every pair of documents the merge ends in a
document, a merge error (`MergeException`), the configuration error of an invalid rule text, or —
for set members the model does not cover — `outOfModel`; **no crash outcome is reachable**: neither
the `AttributeError` of a tag read from a scalar, nor the `TypeError`s of `id_key in ele` /
`set.add(container)`. -/
theorem merge_total (cfg : Config) (l r : Node) : NoCrash (mergeWith cfg l r) := by
  unfold mergeWith
  split
  · exact NoCrash.ok _
  · split
    · exact NoCrash.ok _
    · simp only
      cases r with
      | map ra res =>
        exact rootTagSync_nc l _ (insertDict_ends _ l ra res)
      | seq ra ritems =>
        exact rootTagSync_nc l _ (insertList_ends _ l ra ritems)
      | set ra rms =>
        exact rootTagSync_nc l _ (insertSet_ends _ l ra rms)
      | scalar ra v => exact insertScalar_nc _ l ra v

/-- The mode a configuration answers for a node is: the rule registered
for the node (converted by the enumeration of the node's kind), else the command-line value, else
the `[defaults]` value, else the built-in default — for each of the four kinds. -/
theorem policy_precedence {α : Type} (rule : Option RuleName) (conv : RuleName → Except MErr α)
    (cli dflt : Option α) (builtin : α) :
    (∀ n, rule = some n → pick rule conv cli dflt builtin = conv n) ∧
    (∀ v, rule = none → cli = some v → pick rule conv cli dflt builtin = .ok v) ∧
    (∀ v, rule = none → cli = none → dflt = some v → pick rule conv cli dflt builtin = .ok v) ∧
    (rule = none → cli = none → dflt = none → pick rule conv cli dflt builtin = .ok builtin) := by
  refine ⟨?_, ?_, ?_, ?_⟩
  · intro n h; subst h; rfl
  · intro v h1 h2; subst h1; subst h2; rfl
  · intro v h1 h2 h3; subst h1; subst h2; subst h3; rfl
  · intro h1 h2 h3; subst h1; subst h2; subst h3; rfl

/-- The four `*_merge_mode` methods are instances of `pick` with the built-in defaults
DEEP / ALL / ALL / UNIQUE. -/
theorem modes_are_pick (env : Env) (c : Coords) :
    hashMode env c = pick (ruleFor env c) RuleName.toHash env.cfg.hashCli env.cfg.hashDef .deep ∧
    arrayMode env c = pick (ruleFor env c) RuleName.toArray env.cfg.arrayCli env.cfg.arrayDef .all ∧
    aohMode env c = pick (ruleFor env c) RuleName.toAoh env.cfg.aohCli env.cfg.aohDef .all ∧
    setMode env c = pick (ruleFor env c) RuleName.toSet env.cfg.setCli env.cfg.setDef .unique :=
  ⟨rfl, rfl, rfl, rfl⟩

/-- A simple list merged into a list is `Spec.arrayMerge` of the applicable mode — ALL is `l ++ r`
(`array_all_is_append`). -/
theorem array_merge_eq_spec (env : Env) (la ra : Option Str) (l r : List Node) (c : Coords)
    (mode : ArrayOpt) (hm : arrayMode env c = .ok mode) :
    ∃ a, mergeSimple env (.seq la l) ra r c = .ok (.seq a (arrayMerge mode l r)) := by
  unfold mergeSimple
  simp only [hm]
  cases mode <;> exact ⟨_, rfl⟩

theorem array_all_is_append (env : Env) (la ra : Option Str) (l r : List Node) (c : Coords)
    (hm : arrayMode env c = .ok .all) :
    mergeSimple env (.seq la l) ra r c = .ok (.seq la (l ++ r)) := by
  unfold mergeSimple; simp only [hm]

/-- Sets merge as `Spec.setMerge` of the applicable mode. -/
theorem set_merge_eq_spec (env : Env) (la ra : Option Str) (l r : List Key) (c : Coords)
    (mode : SetOpt) (hm : setMode env c = .ok mode) :
    ∃ a, mergeSets env (.set la l) ra r c = .ok (.set a (setMerge mode l r)) := by
  unfold mergeSets
  simp only [hm]
  cases mode <;> exact ⟨_, rfl⟩

/-- **rhs_scalar_overrides.**  Under a key present on both sides a right-hand scalar replaces
whatever the left-hand side holds, and a right-hand scalar document replaces a left-hand scalar
document — under every configuration. -/
theorem rhs_scalar_overrides (cfg : Config) (env : Env) (lv : Node) (c : Coords) (a : Option Str) (v : Scalar) :
    mergeVal env lv c (.scalar a v) = .ok (.scalar a v) ∧
    (∀ a' v', v ≠ .null → v' ≠ .null → mergeWith cfg (.scalar a' v') (.scalar a v) = .ok (.scalar a v)) := by
  refine ⟨by simp only [mergeVal], ?_⟩
  intro a' v' hv hv'
  exact mergeWith_eq (fun _ e => hv' (Node.scalar.inj e).2) (fun _ e => hv (Node.scalar.inj e).2)

/-- Structurally impossible merges at the root are merge errors — never a crash, never a silently
different document (the `Spec.Impossible` pairs; for an Array into a Set the first container found
is refused unless an earlier scalar element is outside the model's sets). -/
theorem impossible_is_merge_error (cfg : Config) (l r : Node) (h : Impossible l r)
    (hset : ∀ a ms, l = .set a ms → ∀ ra items, r = .seq ra items → ∀ x ∈ items, ∀ a' v, x = .scalar a' v → (scalarKey? v).isSome) :
    mergeWith cfg l r = .error .merge := by
  have hnull : ∀ (a a' : Option Str) (v : Scalar), v ≠ .null → Node.scalar a v ≠ .scalar a' .null :=
    fun _ _ _ hv e => hv (Node.scalar.inj e).2
  cases l with
  | map a xs =>
    cases r with
    | seq ra items => exact mergeWith_eq (fun _ => Node.noConfusion) (fun _ => Node.noConfusion)
    | scalar ra v => exact mergeWith_eq (fun _ => Node.noConfusion) (hnull _ · _ h)
    | _ => exact h.elim
  | scalar a v =>
    cases r with
    | seq ra items => exact mergeWith_eq (hnull _ · _ h) (fun _ => Node.noConfusion)
    | map ra res => exact mergeWith_eq (hnull _ · _ h) (fun _ => Node.noConfusion)
    | set ra rms => exact mergeWith_eq (hnull _ · _ h) (fun _ => Node.noConfusion)
    | scalar ra v' => exact h.elim
  | seq a xs => cases r <;> exact h.elim
  | set a xs =>
    cases r with
    | map ra res => exact mergeWith_eq (fun _ => Node.noConfusion) (fun _ => Node.noConfusion)
    | seq ra items =>
      refine Eq.trans (mergeWith_eq (fun _ => Node.noConfusion) (fun _ => Node.noConfusion)) ?_
      simp only [insertList, listToSet_container items [] h (hset a xs rfl ra items rfl)]
      rfl
    | _ => exact h.elim

/-! ## Key order, key set and per-key content of a deep hash merge

`mergeDicts env (.map la l) par r` is `_merge_dicts(lhs, rhs)`: the DEEP merge of the right-hand
mapping `par` (entries `r`) into the left-hand mapping with entries `l` — at the root
(`root_hash_merge`) and, recursively, under every key present on both sides
(`mergeVal_map_eq_mergeDicts`).  A Python `dict` has no duplicate keys; the model's entry lists can,
so the theorems that speak about right-only keys carry `(keys r).Nodup` (shown necessary below). -/

/-- Left-hand half of `OrderOK`, no hypothesis on `r`: the sub-list of the
merged mapping's keys that are keys of `l` *is* `l`'s key list — left-hand keys keep their relative
order (and multiplicity) under every configuration. -/
theorem lhs_order_kept (env : Env) (la : Option Str) (l : List (Key × Node)) (par : Node)
    (r : List (Key × Node)) (m : Node) (h : mergeDicts env (.map la l) par r = .ok m) :
    ∃ es, m = .map la es ∧ (keys es).filter (fun k => (keys l).contains k) = keys l := by
  obtain ⟨es, hm, _, _, hord, _⟩ := mergeDicts_ok h
  exact ⟨es, hm, hord⟩

/-- For every configuration, every left-hand mapping `l` and every right-hand
mapping `r` (without duplicate keys — a Python `dict`), a successful deep hash merge yields a
mapping `es` with `OrderOK l r es`: the keys of `l` appear in `es` in their original relative order,
**and the keys only in `r` appear in `es` in `r`'s relative order** (exactly: the sub-list of `es`'s
keys that are not keys of `l` *is* the sub-list of `r`'s keys that are not keys of `l`).  The
right-only half rests on the loop invariant `InvR`: no right-only key sits at or after
`buffer_pos`, so inserting the buffer at `buffer_pos` puts it behind every right-only key already
placed. -/
theorem merge_order_ok (env : Env) (la : Option Str) (l : List (Key × Node)) (par : Node)
    (r : List (Key × Node)) (m : Node) (h : mergeDicts env (.map la l) par r = .ok m)
    (hr : (keys r).Nodup) :
    ∃ es, m = .map la es ∧ OrderOK l r es := by
  obtain ⟨es, hm, _, _, hord, hN⟩ := mergeDicts_ok h
  exact ⟨es, hm, hord, (hN hr).2⟩

/-- `(keys r).Nodup` is needed for the right-only half: with the key `x` twice in the right-hand
entry list (impossible for a `dict`) the second `x` is merged into the first, already flushed one. -/
example :
    let l := [(Key.str "b".toList, Node.scalar none (.int 1))]
    let r := [(Key.str "x".toList, Node.scalar none (.int 1)), (.str "b".toList, .scalar none (.int 2)),
       (.str "x".toList, .scalar none (.int 3))]
    let es := [(Key.str "b".toList, Node.scalar none (.int 2)), (.str "x".toList, .scalar none (.int 3))]
    mergeDicts (prepare {} (.scalar none .null)) (.map none l) (.scalar none .null) r = .ok (.map none es) ∧
    (keys es).filter (fun k => !(keys l).contains k) = [.str "x".toList] ∧
    (keys r).filter (fun k => !(keys l).contains k) = [.str "x".toList, .str "x".toList] := by
  decide +kernel

/-- Both inclusions, no hypothesis on `l` or `r`: the key set of a deep hash
merge is the union of the two key sets. -/
theorem hash_deep_keys (env : Env) (la : Option Str) (l : List (Key × Node)) (par : Node)
    (r : List (Key × Node)) (m : Node) (h : mergeDicts env (.map la l) par r = .ok m) :
    ∃ es, m = .map la es ∧ ∀ k, k ∈ keys es ↔ k ∈ keys l ∨ k ∈ keys r := by
  obtain ⟨es, hm, hkeys, _⟩ := mergeDicts_ok h
  exact ⟨es, hm, hkeys⟩

/-- Every left-hand key survives (one inclusion of `hash_deep_keys`). -/
theorem lhs_keys_kept (env : Env) (la : Option Str) (l : List (Key × Node)) (par : Node)
    (r : List (Key × Node)) (m : Node) (h : mergeDicts env (.map la l) par r = .ok m) :
    ∃ a es, m = .map a es ∧ ∀ k ∈ keys l, k ∈ keys es := by
  obtain ⟨es, hm, hk⟩ := hash_deep_keys env la l par r m h
  exact ⟨la, es, hm, fun k hkl => (hk k).mpr (.inl hkl)⟩

/-- Keys, values and order; no hypothesis on `l` or `r`: left-hand
content that the right-hand mapping does not name keeps its value — `es.get(k) = l.get(k)` for every
key `k` that is not a key of `r` — and (`lhs_order_kept`) the left-hand keys keep their relative
order. -/
theorem lhs_only_content_preserved (env : Env) (la : Option Str) (l : List (Key × Node)) (par : Node)
    (r : List (Key × Node)) (m : Node) (h : mergeDicts env (.map la l) par r = .ok m) :
    ∃ es, m = .map la es ∧ (∀ k, k ∉ keys r → lookupKey k es = lookupKey k l) ∧
      (keys es).filter (fun k => (keys l).contains k) = keys l := by
  obtain ⟨es, hm, _, hkeep, hord, _⟩ := mergeDicts_ok h
  exact ⟨es, hm, hkeep, hord⟩

/-- Deep hash merges, per-key lookup characterisation.  For every
configuration, a successful `_merge_dicts` of a right-hand mapping `r` (no duplicate keys) into `l`
yields a mapping `es` whose content is, key by key:
* `k` not in `r`: `es.get(k) = l.get(k)` (absent stays absent, present keeps its value);
* `k` in `r` with value `rv`: `Spec.Merged env par k (l.get(k)) rv (es.get(k))` — only in `r`: `rv`;
  in both: the left value under LEFT, `rv` under RIGHT, else the recursive merge `mergeVal` of the
  two values (LEFT/RIGHT/else is the policy of `rv`'s own kind or a rule for that node).
Together with `hash_deep_keys` (key set = union) and `merge_order_ok` this determines the merged
mapping up to the interleaving of left-hand and right-only keys. -/
theorem merge_content_eq_spec (env : Env) (la : Option Str) (l : List (Key × Node)) (par : Node)
    (r : List (Key × Node)) (m : Node) (h : mergeDicts env (.map la l) par r = .ok m)
    (hr : (keys r).Nodup) :
    ∃ es, m = .map la es ∧ (∀ k, k ∉ keys r → lookupKey k es = lookupKey k l) ∧
      ∀ k rv, lookupKey k r = some rv → Merged env par k (lookupKey k l) rv (lookupKey k es) := by
  obtain ⟨es, hm, _, hkeep, _, hN⟩ := mergeDicts_ok h
  exact ⟨es, hm, hkeep, (hN hr).1⟩

/-- The recursion of `merge_content_eq_spec`: the merge of a right-hand mapping found under a shared
key is again `_merge_dicts` (with that mapping as the rule-lookup parent), so the characterisation
applies at every depth. -/
theorem mergeVal_map_eq_mergeDicts (env : Env) (lv : Node) (c : Coords) (a : Option Str)
    (res : List (Key × Node)) :
    mergeVal env lv c (.map a res) = mergeDicts env lv (.map none res) res := by
  rw [mergeVal]; exact syncTag_eq (mergeDicts_ends env lv _ res)

/-- At the root: a mapping merged into a mapping is, by the hash policy of the right-hand root,
the left document, the right document, or `_merge_dicts` of the two. -/
theorem root_hash_merge (cfg : Config) (la ra : Option Str) (l r : List (Key × Node)) :
    mergeWith cfg (.map la l) (.map ra r) =
      match hashMode (prepare cfg (.map ra r)) ⟨.map ra r, none, none⟩ with
      | .error e => .error e
      | .ok .left => .ok (.map la l)
      | .ok .right => .ok (.map ra r)
      | .ok .deep => mergeDicts (prepare cfg (.map ra r)) (.map la l) (.map ra r) r :=
  Eq.trans (mergeWith_eq (fun _ => Node.noConfusion) (fun _ => Node.noConfusion)) (rootTagSync_of_container rfl _)

/-- The deep-hash theorems at the entry point: `merge_with` of a right-hand mapping document (no
duplicate keys) into a left-hand mapping document under hashes=DEEP (by rule, command line,
`[defaults]` or built-in) yields a mapping whose key set is the union, in which keys not named by `r`
keep their value, keys of `r` hold `Spec.Merged` (right-only: `r`'s value; shared: LEFT / RIGHT /
recursive merge), and whose key order is `OrderOK`. -/
theorem merge_with_deep_hash_spec (cfg : Config) (la ra : Option Str) (l r : List (Key × Node)) (m : Node)
    (h : mergeWith cfg (.map la l) (.map ra r) = .ok m)
    (hmode : hashMode (prepare cfg (.map ra r)) ⟨.map ra r, none, none⟩ = .ok .deep)
    (hr : (keys r).Nodup) :
    ∃ es, m = .map la es ∧
      (∀ k, k ∈ keys es ↔ k ∈ keys l ∨ k ∈ keys r) ∧
      (∀ k, k ∉ keys r → lookupKey k es = lookupKey k l) ∧
      (∀ k rv, lookupKey k r = some rv →
        Merged (prepare cfg (.map ra r)) (.map ra r) k (lookupKey k l) rv (lookupKey k es)) ∧
      OrderOK l r es := by
  rw [root_hash_merge, hmode] at h
  obtain ⟨es, hm, hkeys, hkeep, hord, hN⟩ := mergeDicts_ok h
  exact ⟨es, hm, hkeys, hkeep, (hN hr).1, hord, (hN hr).2⟩

theorem nodup_of_filter {α : Type} (p : α → Bool) (xs : List α) (h1 : (xs.filter p).Nodup)
    (h2 : (xs.filter (fun x => !p x)).Nodup) : xs.Nodup :=
  (List.filter_append_perm p xs).nodup <| List.nodup_append.mpr ⟨h1, h2, fun _ ha _ hb e =>
    Bool.false_ne_true <| (Bool.not_eq_true' _ ▸ (List.mem_filter.mp (e ▸ hb)).2).symm.trans (List.mem_filter.mp ha).2⟩

/-- Well-formedness is closed under the merge: when neither side has duplicate keys the merged
mapping has none either (so the `Nodup` hypothesis of the theorems above is again available for the
result, e.g. for the next record merged into the same Array-of-Hashes element). -/
theorem merge_keys_nodup (env : Env) (la : Option Str) (l : List (Key × Node)) (par : Node)
    (r : List (Key × Node)) (m : Node) (h : mergeDicts env (.map la l) par r = .ok m)
    (hl : (keys l).Nodup) (hr : (keys r).Nodup) :
    ∃ es, m = .map la es ∧ (keys es).Nodup := by
  obtain ⟨es, hm, h1, h2⟩ := merge_order_ok env la l par r m h hr
  refine ⟨es, hm, nodup_of_filter (fun k => (keys l).contains k) _ (by rw [h1]; exact hl) ?_⟩
  rw [h2]
  exact List.Nodup.sublist List.filter_sublist hr

/-- Under a shared key a right-hand Array is merged by `_merge_lists` (simple lists:
`array_merge_eq_spec`; Arrays-of-Hashes: `aoh_deep_eq_spec` …). -/
theorem mergeVal_seq_eq_mergeLists (env : Env) (lv : Node) (c : Coords) (ra : Option Str)
    (ritems : List Node) :
    mergeVal env lv c (.seq ra ritems) = mergeLists env lv ra ritems c := by
  rw [mergeVal]; exact syncTag_eq (mergeLists_ends env lv ra ritems c)

/-- Under a shared key a right-hand Set is merged by `_merge_sets` (`set_merge_eq_spec`). -/
theorem mergeVal_set_eq_mergeSets (env : Env) (lv : Node) (c : Coords) (ra : Option Str)
    (rms : List Key) :
    mergeVal env lv c (.set ra rms) = mergeSets env lv ra rms c := by
  rw [mergeVal]; exact syncTag_eq (mergeSets_ends env lv ra rms c)

/-- At the root an Array merged into an Array is `_merge_lists` with the right-hand root's policy. -/
theorem root_list_merge (cfg : Config) (la ra : Option Str) (l r : List Node) :
    mergeWith cfg (.seq la l) (.seq ra r) =
      mergeLists (prepare cfg (.seq ra r)) (.seq la l) ra r ⟨.seq ra r, none, none⟩ :=
  Eq.trans (mergeWith_eq (fun _ => Node.noConfusion) (fun _ => Node.noConfusion)) (rootTagSync_of_container rfl _)

/-- `_merge_lists` of a right-hand list whose first element is not a Hash is `_merge_simple_lists`. -/
theorem mergeLists_simple (env : Env) (lv : Node) (ra : Option Str) (first : Node) (rrest : List Node)
    (c : Coords) (hf : isMap first = false) :
    mergeLists env lv ra (first :: rrest) c = mergeSimple env lv ra (first :: rrest) c := by
  cases first with
  | map => cases hf
  | _ => rfl

/-- Array-of-Hashes, DEEP: when the first right-hand element is a Hash
and the applicable AoH policy is DEEP, `_merge_lists` of the right-hand list into a left-hand list
succeeds with `m` **iff** `m` is the left-hand list after `Spec.AohDeep`: the right-hand records are
taken in order, each must carry the identity key (`aoh_merge_key` of the first record), and each is
appended when no element of the list as it then stands has the same identity, else deep-merged
(`_merge_dicts`) in place into the first element that has.  Both directions: the relation is sound
and complete for the model. -/
theorem aoh_deep_eq_spec (env : Env) (la ra : Option Str) (litems : List Node) (fa : Option Str)
    (fes : List (Key × Node)) (rrest : List Node) (c : Coords) (m : Node)
    (hmode : aohMode env c = .ok .deep) :
    mergeLists env (.seq la litems) ra (.map fa fes :: rrest) c = .ok m ↔
      ∃ out, m = .seq la out ∧
        AohDeep env (aohMergeKey env ⟨.map fa fes, some (.seq ra (.map fa fes :: rrest)), some (.idx 0)⟩ fes)
          litems (.map fa fes :: rrest) out := by
  simp only [mergeLists, hmode, ← aohDeepLoop_iff, aohDeepLoop]
  cases aohDeepStep env _ litems (.map fa fes) with
  | error e => exact ⟨(by cases ·), (by rcases · with ⟨_, _, h⟩; cases h)⟩
  | ok l1 =>
    simp only
    cases aohDeepLoop env _ rrest l1 with
    | error e => exact ⟨(by cases ·), (by rcases · with ⟨_, _, h⟩; cases h)⟩
    | ok l2 => exact ⟨fun h => ⟨l2, (Except.ok.inj h).symm, rfl⟩, by rintro ⟨_, hm, h⟩; cases h; rw [hm]⟩

/-- What one `Spec.AohStep` does to the record it touches (the per-key characterisation of
`merge_content_eq_spec`, by identity key): a right-hand record `{es}` (no duplicate keys) with
identity value `idv` is either **appended** — no left-hand element has that identity — or the first
left-hand element with that identity is a Hash `{les}` and is replaced in place by a Hash `{es'}`
with: key set the union, keys not named by the record keeping their value, keys of the record
holding `Spec.Merged` (right-only: the record's value; shared: LEFT / RIGHT / recursive merge),
and `OrderOK les es es'`.  All other elements are untouched. -/
theorem aoh_deep_step_content (env : Env) (idKey : Key) (litems : List Node) (a : Option Str)
    (es : List (Key × Node)) (out : List Node) (h : AohStep env idKey litems a es out)
    (hes : (keys es).Nodup) :
    ∃ idv, lookupKey idKey es = some idv ∧
      (((∀ x ∈ litems, recordMatches env idKey (typedNode env idv) x = false) ∧
          out = litems ++ [.map a es]) ∨
       ∃ pre la' les post es', litems = pre ++ .map la' les :: post ∧
          (∀ x ∈ pre, recordMatches env idKey (typedNode env idv) x = false) ∧
          recordMatches env idKey (typedNode env idv) (.map la' les) = true ∧
          out = pre ++ .map la' es' :: post ∧
          (∀ k, k ∈ keys es' ↔ k ∈ keys les ∨ k ∈ keys es) ∧
          (∀ k, k ∉ keys es → lookupKey k es' = lookupKey k les) ∧
          (∀ k rv, lookupKey k es = some rv →
            Merged env (.map a es) k (lookupKey k les) rv (lookupKey k es')) ∧
          OrderOK les es es') := by
  cases h with
  | append idv hid hall => exact ⟨idv, hid, .inl ⟨hall, rfl⟩⟩
  | merge idv pre lh post m hid e hpre hlh hm =>
    refine ⟨idv, hid, .inr ?_⟩
    cases lh with
    | map la' les =>
      obtain ⟨es', rfl, hkeys, hkeep, hord, hN⟩ := mergeDicts_ok hm
      exact ⟨pre, la', les, post, es', e, hpre, hlh, rfl, hkeys, hkeep, (hN hes).1, hord, (hN hes).2⟩
    | _ => cases hlh

/-- Array-of-Hashes, DEEP: a left-hand element whose identity no
right-hand record carries keeps its value **and its position**; the left-hand list is a positional
prefix of the result (`litems.length ≤ out.length`), and at most one element per right-hand record
is added. -/
theorem aoh_deep_lhs_only_preserved (env : Env) (idKey : Key) (litems ritems out : List Node)
    (h : AohDeep env idKey litems ritems out) :
    (∀ (i : Nat) (x : Node), litems[i]? = some x →
        (∀ a es idv, Node.map a es ∈ ritems → lookupKey idKey es = some idv →
          recordMatches env idKey (typedNode env idv) x = false) →
        out[i]? = some x) ∧
    litems.length ≤ out.length ∧ out.length ≤ litems.length + ritems.length := by
  induction h with
  | nil l => exact ⟨fun _ _ hx _ => hx, Nat.le_refl _, Nat.le_refl _⟩
  | cons l l1 out a es rest hstep _ ih =>
    have hlen := AohStep_length hstep
    refine ⟨fun i x hx hno => ih.1 i x ?_
      fun a' es' idv hmem hid => hno a' es' idv (List.mem_cons_of_mem _ hmem) hid,
      Nat.le_trans hlen.1 ih.2.1, Nat.le_trans ih.2.2 ?_⟩
    · rcases AohStep_at hstep hx with h | ⟨idv, _, hid, hmt, _⟩
      · exact h
      · exact absurd ((hno a es idv List.mem_cons_self hid).symm.trans hmt) Bool.false_ne_true
    · exact Nat.le_trans (Nat.add_le_add_right hlen.2 _) (Nat.le_of_eq (Nat.add_right_comm ..))

/-- Array-of-Hashes, DEEP (nothing is lost, at key level): every left-hand
element is still at its position, either unchanged or — a Hash — grown to a Hash with at least its
keys (`Spec.KeysGrow`); and every right-hand record's keys are all present in some Hash of the
result (the record itself where it was appended, or the element it was merged into, possibly grown
further by later records). -/
theorem aoh_deep_keys (env : Env) (idKey : Key) (litems ritems out : List Node)
    (h : AohDeep env idKey litems ritems out) :
    (∀ (i : Nat) (x : Node), litems[i]? = some x → ∃ y, out[i]? = some y ∧ KeysGrow x y) ∧
    (∀ a es, Node.map a es ∈ ritems →
      ∃ y ∈ out, ∃ a' es', y = .map a' es' ∧ ∀ k ∈ keys es, k ∈ keys es') := by
  induction h with
  | nil l => exact ⟨fun i x hx => ⟨x, hx, .same x⟩, nofun⟩
  | cons l l1 out a es rest hstep _ ih =>
    obtain ⟨j, y, hj, hy⟩ := AohStep_has hstep
    refine ⟨fun i x hx => ?_, fun a' es' hmem => ?_⟩
    · obtain ⟨y1, h1, g1⟩ : ∃ y, l1[i]? = some y ∧ KeysGrow x y := by
        rcases AohStep_at hstep hx with h | ⟨_, m, _, _, hm, h⟩
        · exact ⟨x, h, .same x⟩
        · exact ⟨m, h, (mergeDicts_KeysGrow hm).1⟩
      obtain ⟨y2, h2, g2⟩ := ih.1 i y1 h1
      exact ⟨y2, h2, KeysGrow_trans g1 g2⟩
    · rcases List.mem_cons.mp hmem with e | hmem
      · cases e
        obtain ⟨y2, h2, g2⟩ := ih.1 j y hj
        exact ⟨y2, List.mem_of_getElem? h2, hy.grow g2⟩
      · exact ih.2 a' es' hmem

/-! ## Witnesses: the hypotheses are met by concrete values; where right-only keys are interleaved -/

def i (n : Int) : Node := .scalar none (.int n)
def sk (s : String) : Key := .str s.toList

/-- `{a,b,c} ⊕ {x,b,y,c,z}` gives `a,x,b,c,y,z` (buffered right-only keys are inserted at the shared
key's right-hand index, clamped). -/
example : (mergeWith {} (.map none [(sk "a", i 1), (sk "b", i 2), (sk "c", i 3)])
    (.map none [(sk "x", i 1), (sk "b", i 2), (sk "y", i 1), (sk "c", i 3), (sk "z", i 1)])).map
      (fun n => match n with | .map _ es => es.map (·.1) | _ => [])
    = .ok [sk "a", sk "x", sk "b", sk "c", sk "y", sk "z"] := by decide +kernel

/-- `a: 5 ⊕ a: []` is a merge error (fix C05-1), not the `AttributeError` of the pinned code. -/
example : mergeWith {} (.map none [(sk "a", i 5)]) (.map none [(sk "a", .seq none [])]) = .error .merge := by
  decide +kernel

/-- arrays=unique: `[1,2] ⊕ [3,3] = [1,2,3]` (fix C05-3). -/
example : mergeWith { arrayCli := some .unique } (.seq none [i 1, i 2]) (.seq none [i 3, i 3])
    = .ok (.seq none [i 1, i 2, i 3]) := by decide +kernel

/-- the AoH option does not leak onto scalars (fix C05-2): `a: 1 ⊕ a: 2` under aoh=left is `a: 2`. -/
example : mergeWith { aohCli := some .left } (.map none [(sk "a", i 1)]) (.map none [(sk "a", i 2)])
    = .ok (.map none [(sk "a", i 2)]) := by decide +kernel

/-- a rule for the node wins over the command-line value. -/
example : mergeWith { hashCli := some .deep, rules := [([.key (sk "a")], .left)] }
    (.map none [(sk "a", .map none [(sk "x", i 1)])]) (.map none [(sk "a", .map none [(sk "y", i 2)])])
    = .ok (.map none [(sk "a", .map none [(sk "x", i 1)])]) := by decide +kernel

/-- The hypotheses of `merge_order_ok` / `merge_content_eq_spec` are met by a merge that exercises
every constructor of `Spec.Merged` but LEFT: `{a: {x: 1}, c: 3} ⊕ {d: 4, a: {y: 2}, c: 5}` is
`{a: {x: 1, y: 2}, d: 4, c: 5}` (recursive merge under `a`, right-only `d` placed at `a`'s
right-hand index, right-hand scalar under `c`), and the right-hand keys have no duplicates. -/
example :
    let r := [(sk "d", i 4), (sk "a", .map none [(sk "y", i 2)]), (sk "c", i 5)]
    mergeDicts (prepare {} (.map none r)) (.map none [(sk "a", .map none [(sk "x", i 1)]), (sk "c", i 3)])
        (.map none r) r
      = .ok (.map none [(sk "a", .map none [(sk "x", i 1), (sk "y", i 2)]), (sk "d", i 4), (sk "c", i 5)]) ∧
    (keys r).Nodup := by
  decide +kernel

/-- hashes=left under a shared key: `Spec.Merged.keepLeft`. -/
example : mergeWith { rules := [([.key (sk "a")], .left)] }
    (.map none [(sk "a", .map none [(sk "x", i 1)])]) (.map none [(sk "a", .map none [(sk "y", i 2)]), (sk "b", i 1)])
    = .ok (.map none [(sk "a", .map none [(sk "x", i 1)]), (sk "b", i 1)]) := by decide +kernel

/-- aoh=deep: `[{id: 1, v: 1}, {id: 2, v: 2}] ⊕ [{id: 2, w: 9}, {id: 3}]` — the record with identity 2
is merged in place (`Spec.AohStep.merge`), identity 3 is appended (`Spec.AohStep.append`), identity 1
(named by no right-hand record) keeps its value and position. -/
example : mergeWith { aohCli := some .deep }
    (.seq none [.map none [(sk "id", i 1), (sk "v", i 1)], .map none [(sk "id", i 2), (sk "v", i 2)]])
    (.seq none [.map none [(sk "id", i 2), (sk "w", i 9)], .map none [(sk "id", i 3)]])
    = .ok (.seq none [.map none [(sk "id", i 1), (sk "v", i 1)],
        .map none [(sk "id", i 2), (sk "v", i 2), (sk "w", i 9)], .map none [(sk "id", i 3)]]) := by
  decide +kernel

/-- aoh=deep: a right-hand record without the identity key is a merge error. -/
example : mergeWith { aohCli := some .deep } (.seq none [.map none [(sk "id", i 1)]])
    (.seq none [.map none [(sk "id", i 1)], .map none [(sk "x", i 3)]]) = .error .merge := by
  decide +kernel

end Ypv.C05
