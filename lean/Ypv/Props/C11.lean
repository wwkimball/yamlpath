import Ypv.Lemmas.MergeAt
import Ypv.Props.C09
/-!
# C11 — a merge aimed at a path changes only what lies under that path

Theorems about `Ypv.MergeAt.mergeAt` (`Model/MergeAt.lean`: `Merger.merge_with` with `--mergeat`,
as the code stands after fixes C11-1 … C11-3), for every configuration, left document, right
document and query outcome (`Plan`).  `Apart t b`: neither address lies under the other.
-/
namespace Ypv.MergeAt
open Ypv Ypv.Merge

/-- A merge aimed at existing targets leaves every address that is apart from all of them
exactly as it was — the same node, or still nothing.  No hypothesis on the targets (any order,
repeats, nesting). -/
theorem mergeat_frame (cfg : Config) (l r d' : Node) (targets : List Addr)
    (h : mergeAt cfg l (.existing targets) r = .ok d') :
    ∀ b, (∀ t ∈ targets, Apart t b) → d'.get? b = l.get? b :=
  fun b hb => mergeAt_existing_keeps (·.get? b) (fun t ht m d => get?_setAt_apart m t d b (hb t ht)) h

/-- FRAME for a straight-line merge path (followed, and created where missing): every node of the
left document at an address apart from the relayed one is still there, unchanged (padding elements
and the new key are additions, not changes). -/
theorem mergeat_frame_created (cfg : Config) (l r d' : Node) (segs : List PSeg)
    (hl : isNull l = false) (hr : isNull r = false)
    (h : mergeAt cfg l (.create segs) r = .ok d') :
    ∃ leaf c, wrapLeaf r = .ok leaf ∧ createPathN leaf l segs = .ok c ∧
      ∀ b x, l.get? b = some x → Apart c.addr b → d'.get? b = some x := by
  rw [mergeAt_create cfg l r segs hr hl] at h
  cases hw : wrapLeaf r with
  | error e => rw [mergeCreate, hw] at h; cases h
  | ok leaf =>
    cases hc : createPathN leaf l segs with
    | error e => rw [mergeCreate, hw] at h; simp only [hc] at h; cases h
    | ok c =>
      rw [mergeCreate_eq _ r l leaf segs c hw hc] at h
      refine ⟨leaf, c, rfl, hc, fun b x hb hap => ?_⟩
      have hcf := createPathN_frame leaf segs l c hc b x hb hap
      rcases ite_eq_cases h with ⟨_, h⟩ | ⟨_, h⟩
      · cases h; exact hcf
      · obtain ⟨_, _, m, _, _, rfl⟩ := mergeOne_ok h
        rw [get?_setAt_apart m c.addr c.doc b hap]
        exact hcf

/-- With the matched addresses pairwise apart (what a wildcard / search over siblings
yields), every target ends up holding what the per-target dispatch of `merge_with` makes of the node
that stood there in the LEFT document and the right-hand document. -/
theorem mergeat_targets_merged (cfg : Config) (l r d' : Node) (targets : List Addr)
    (hp : targets.Pairwise Apart) (hr : isNull r = false)
    (h : mergeAt cfg l (.existing targets) r = .ok d') :
    ∀ t ∈ targets, ∃ old m, l.get? t = some old ∧
      mergeTarget (prepare cfg r) t.isEmpty old r = .ok m ∧ d'.get? t = some m :=
  mergeTargets_merged _ r targets l d' hp (mergeAt_existing_ok h hr)

/-- The per-target dispatch IS the policy-defined (C05) merge of the target's old content with the
right-hand document.  PARTIAL: outside the input class of the known finding `scalar-rhs-retyped`
(`Retyped`: a Scalar target below the root is overwritten through `set_value`, which stores the text
`"5"` as the integer 5).
FULL STATEMENT (false on the pinned and on the fixed tree, witness below):
`mergeTarget (prepare cfg r) isRoot l r = c05 cfg l r` for all non-null `l`, `r`. -/
theorem mergeat_target_is_c05_merge_partial (cfg : Config) (isRoot : Bool) (l r : Node)
    (hl : isNull l = false) (hr : isNull r = false) (hs : Retyped isRoot l r = false) :
    mergeTarget (prepare cfg r) isRoot l r = c05 cfg l r := by
  rw [c05, mergeWith_of_not_null cfg l r hl hr]
  cases r with
  | map ra res => rfl
  | seq ra ri => rfl
  | set ra rm => rfl
  | scalar ra v =>
    cases l with
    | scalar la lv =>
      cases isRoot with
      | true => rfl
      | false =>
        -- outside `Retyped` the target has the right-hand anchor and `set_value` stores `v` as it is
        simp only [Retyped, Bool.not_false, Bool.true_and, Bool.not_eq_false', Bool.and_eq_true,
          decide_eq_true_eq] at hs
        obtain ⟨rfl, hns⟩ := hs
        show setScalar la v = _
        rw [setScalar, hns]
        rfl
    | seq la li => rfl
    | map la le => rfl
    | set la lm => rfl

/-- **The per-target dispatch, in full (no exclusion).**  For all non-null `l`, `r`: the value that
replaces the target is the C05 root merge of the target's old content with the right-hand document —
except when a Scalar lands on a Scalar target that is not the document root, where it is what
`set_value` stores: the target's own anchor kept, the value re-made in the DEFAULT format
(`setScalar la v = .ok (.scalar la s)` where `newScalar la.isSome v .default = .ok s`). -/
theorem mergeat_target_is_c05_merge (cfg : Config) (isRoot : Bool) (l r : Node)
    (hl : isNull l = false) (hr : isNull r = false) :
    mergeTarget (prepare cfg r) isRoot l r =
      match l, r with
      | .scalar la _, .scalar _ v => if isRoot then c05 cfg l r else setScalar la v
      | _, _ => c05 cfg l r := by
  cases l with
  | scalar la lv =>
    cases r with
    | scalar ra v =>
      cases isRoot with
      | true => exact mergeat_target_is_c05_merge_partial cfg true _ _ hl hr (by simp [Retyped])
      | false => simp [mergeTarget]
    | _ => exact mergeat_target_is_c05_merge_partial cfg isRoot _ _ hl hr rfl
  | _ => exact mergeat_target_is_c05_merge_partial cfg isRoot _ _ hl hr (by cases r <;> rfl)

/-- **Exactly which values `set_value` does not store as they are** (the DEFAULT format of
`make_new_node`): Booleans, integers and floats are kept; a text `s` is kept iff it does not read as
a Boolean, an integer or a float (`eTypedValue s = .str`, or `= .none` — the text `None` — on an
unanchored target); every other text is re-typed (`true` → Boolean, `5` → int, `1.5` → float), and
texts outside the value model are refused. -/
theorem set_value_keeps_iff (anchored : Bool) (v : Scalar) :
    newScalar anchored v .default = .ok v ↔
      match v with
      | .null => anchored = false
      | .opaque _ => False
      | .str s => eTypedValue s = .str ∨ (eTypedValue s = .none ∧ anchored = false)
      | _ => True := by
  cases v with
  | null => cases anchored <;> simp [newScalar]
  | str s =>
    simp only [newScalar]
    cases ht : eTypedValue s with
    | bool b =>
      simp only [fmtBoolean]
      cases pyStrVal (.str s) with
      | none => simp
      | some t => simp only; split <;> simp
    | int i => simp [fmtInt, ht]
    | float m e => simp [fmtFloat, ht]
    | none => cases anchored <;> simp
    | str => simp
    | unmodelled => simp
  | _ => simp [newScalar]

/-- **The finding class, spelled out**: a Scalar right-hand document `v` aimed at a Scalar target below
the root comes out different from the C05 merge exactly when the target carries another anchor than the
right-hand Scalar or `v` is a text that reads as a Boolean / integer / float (or is refused). -/
theorem retyped_iff (la ra : Option Str) (lv v : Scalar) :
    Retyped false (.scalar la lv) (.scalar ra v) = true ↔
      la ≠ ra ∨ ¬ (match v with
        | .null => la.isSome = false
        | .opaque _ => False
        | .str s => eTypedValue s = .str ∨ (eTypedValue s = .none ∧ la.isSome = false)
        | _ => True) := by
  rw [← set_value_keeps_iff la.isSome v]
  simp only [Retyped, Bool.not_false, Bool.true_and, Bool.not_eq_true', Bool.and_eq_false_iff,
    decide_eq_false_iff_not, ne_eq]

/-- C11 for existing targets, in one statement: targets pairwise apart, none of them null or in
the finding class ⇒ the result meets `Meets` (every target holds the C05 merge of its old content,
everything apart from the targets is as it was).  PARTIAL in the same sense as
`mergeat_target_is_c05_merge_partial`. -/
theorem mergeat_meets_spec_partial (cfg : Config) (l r d' : Node) (targets : List Addr)
    (hp : targets.Pairwise Apart) (hr : isNull r = false)
    (hn : ∀ t ∈ targets, ∀ old, l.get? t = some old →
      isNull old = false ∧ Retyped t.isEmpty old r = false)
    (h : mergeAt cfg l (.existing targets) r = .ok d') :
    Meets cfg l targets r d' := by
  refine ⟨?_, mergeat_frame cfg l r d' targets h⟩
  intro t ht
  obtain ⟨old, m, hold, hm, hres⟩ := mergeat_targets_merged cfg l r d' targets hp hr h t ht
  obtain ⟨hno, hre⟩ := hn t ht old hold
  exact ⟨old, m, hold, by rw [← mergeat_target_is_c05_merge_partial cfg _ old r hno hr hre]; exact hm, hres⟩

/-- When the straight-line merge path does not exist yet (`fresh`) and the
right-hand document is a container, the merge succeeds, the node at the relayed address IS the
right-hand document, and every node of the left document apart from that address is unchanged.
`start` is the left document, or for an empty (null) left document the empty container
`build_next_node` makes for the first segment (fix C11-2). -/
theorem mergeat_missing_created (cfg : Config) (l r : Node) (segs : List PSeg) (c : CreatedN)
    (hr : isNull r = false) (hs : r.isScalar = false)
    (hne : isNull l = true → segs ≠ [])
    (hc : createPathN r (if isNull l then buildNextN segs r else l) segs = .ok c)
    (hf : c.fresh = true) :
    mergeAt cfg l (.create segs) r = .ok c.doc ∧ c.doc.get? c.addr = some r ∧
      ∀ b x, (if isNull l then buildNextN segs r else l).get? b = some x → Apart c.addr b →
        c.doc.get? b = some x := by
  have hw : wrapLeaf r = .ok r := wrapLeaf_of_not_scalar hs
  refine ⟨?_, createPathN_fresh_holds r segs _ c hc hf, createPathN_frame r segs _ c hc⟩
  -- a created container is relayed as it is: nothing is merged into it
  have hrelay : ∀ start, createPathN r start segs = .ok c →
      mergeCreate (prepare cfg r) r start segs = .ok c.doc := fun start hc' => by
    rw [mergeCreate_eq _ r start r segs c hw hc', hf, hs]; rfl
  cases hl : isNull l with
  | true =>
    rw [hl, if_pos rfl] at hc
    have hse : segs.isEmpty = false := by
      cases segs with
      | nil => exact absurd rfl (hne hl)
      | cons s t => rfl
    rw [mergeAt_create_null cfg l r r segs hr hl hw, hse]
    exact hrelay _ hc
  | false =>
    rw [hl, if_neg Bool.false_ne_true] at hc
    rw [mergeAt_create cfg l r segs hr hl]
    exact hrelay _ hc

/-- An empty right-hand document changes nothing, whatever the merge path. -/
theorem mergeat_null_rhs (cfg : Config) (l r : Node) (plan : Plan) (hr : isNull r = true) :
    mergeAt cfg l plan r = .ok l := by
  rw [mergeAt, if_pos hr]

/-- An existing straight-line path is an ordinary single target: the optional query changes
nothing and the merge is the one aimed at the relayed address. -/
theorem mergeat_existing_path_is_target (cfg : Config) (l r leaf : Node) (segs : List PSeg) (c : CreatedN)
    (hl : isNull l = false) (hw : wrapLeaf r = .ok leaf)
    (hc : createPathN leaf l segs = .ok c) (hf : c.fresh = false) :
    mergeAt cfg l (.create segs) r = mergeAt cfg l (.existing [c.addr]) r := by
  cases hr : isNull r with
  | true => rw [mergeat_null_rhs cfg l r _ hr, mergeat_null_rhs cfg l r _ hr]
  | false =>
    rw [mergeAt_create cfg l r segs hr hl, mergeCreate_eq _ r l leaf segs c hw hc, hf,
      (createPathN_not_fresh leaf segs l c hc hf).1, mergeAt_existing cfg l r _ hr, hl]
    show mergeOne _ r l c.addr = mergeTargets _ r l [c.addr]
    rw [mergeTargets]
    cases mergeOne (prepare cfg r) r l c.addr <;> rfl

/-- A merge path that matches nothing and is not creatable (the optional query yields
no node) is a merge error — no document comes out, so nothing can be written. -/
theorem mergeat_unmatched_is_error (cfg : Config) (l r : Node)
    (hl : isNull l = false) (hr : isNull r = false) :
    mergeAt cfg l (.existing []) r = .error .merge := by
  rw [mergeAt_existing cfg l r [] hr, hl]; rfl

/-- When the straight-line path cannot be followed or created (a key below a
Scalar, a key in an Array, …) the merge fails with exactly the optional query's error — again no
document comes out. -/
theorem mergeat_uncreatable_is_error (cfg : Config) (l r leaf : Node) (segs : List PSeg) (e : Err)
    (hl : isNull l = false) (hr : isNull r = false) (hw : wrapLeaf r = .ok leaf)
    (hc : createPathN leaf l segs = .error e) :
    mergeAt cfg l (.create segs) r = .error (ofE e) := by
  rw [mergeAt_create cfg l r segs hr hl, mergeCreate, hw]
  simp only [hc]

/-- Every position that lies under no target keeps its shape: the containers above a
target keep their kind, anchor and key list (order included) / length — a merge aimed below them
adds, removes and reorders nothing at their level. -/
theorem mergeat_spine_kept (cfg : Config) (l r d' : Node) (targets : List Addr)
    (h : mergeAt cfg l (.existing targets) r = .ok d') :
    ∀ p, (∀ t ∈ targets, ¬ t <+: p) → (d'.get? p).map shape = (l.get? p).map shape :=
  fun p hp => mergeAt_existing_keeps (fun d => (d.get? p).map shape)
    (fun t ht m d => shape_get?_setAt m t d p (hp t ht)) h

/-- MISSING PATH CREATED, Scalar right-hand document: the node at the relayed address is the
Scalar as `set_value` stores it (`newScalar … DEFAULT`: the finding class `scalar-rhs-retyped`
re-types text here too), every pre-existing node apart from that address is unchanged. -/
theorem mergeat_missing_created_scalar (cfg : Config) (l d' : Node) (ra : Option Str) (v : Scalar)
    (segs : List PSeg) (leaf : Node) (c : CreatedN)
    (hl : isNull l = false) (hr : isNull (.scalar ra v) = false)
    (hw : wrapLeaf (.scalar ra v) = .ok leaf) (hc : createPathN leaf l segs = .ok c)
    (hf : c.fresh = true)
    (h : mergeAt cfg l (.create segs) (.scalar ra v) = .ok d') :
    ∃ la s, newScalar la.isSome v .default = .ok s ∧ d'.get? c.addr = some (.scalar la s) := by
  rw [mergeAt_create cfg l _ segs hr hl, mergeCreate_eq _ _ l leaf segs c hw hc, hf] at h
  obtain ⟨hm, old, m, hold, hmt, rfl⟩ := mergeOne_ok (h : mergeOne _ _ c.doc c.addr = .ok d')
  have hleaf := createPathN_fresh_holds leaf segs l c hc hf
  have hroot := createPathN_fresh_not_root leaf segs l c hc hf
  rw [hleaf] at hold
  cases hold
  -- the leaf is a Scalar below the root, so the dispatch is `set_value` at its own address
  obtain ⟨v', -, rfl⟩ := Except.map_eq_ok hw
  rw [mergeTarget, hroot, if_neg Bool.false_ne_true] at hmt
  cases hns : newScalar ra.isSome v .default with
  | error e => rw [setScalar, hns] at hmt; cases hmt
  | ok s =>
    rw [setScalar, hns] at hmt
    cases hmt
    exact ⟨ra, s, hns, get?_setAt_self _ c.addr c.doc _ hm hleaf⟩

/-- **The exact set of new addresses after creation** (Scalar right-hand document, straight path):
the creation used by `--mergeat` is C09's, so C09's complete `create_exact` applies — the path was
present (nothing changed), or a `null` on the way was relayed (nothing changed), or the prefix resolves
to a node `n` at `q`, the next segment is missing there, and the new document is the old one with
EXACTLY the node at `q` replaced by `createHere n seg rest` (new addresses: those below
`q ++ [createdRef n seg]`, nothing else). -/
theorem mergeat_creation_exact (s : Scalar) (l : Node) (segs : List PSeg) (c : CreatedN)
    (hc : createPathN (.scalar none s) l segs = .ok c) :
    CreateOutcome s l segs c.toCreated := by
  apply Ypv.C09.create_exact s l segs
  rw [← mergeat_creation_is_c09, hc]
  rfl

/-- A `[rules]` / `[keys]` path written against the merged document below the
merge path (`mergePath ++ p`, plain key names) addresses the node `p` of the right-hand document. -/
theorem mergeat_rules_rebased {α : Type} (m p : List Str) (x : α) (hm : m ≠ [])
    (hp : ∀ k ∈ p, k ≠ [] ∧ '/' ∉ k) :
    rebaseRules m [(m ++ p, x)] = [(keysToAddr p, x)] := by
  simp [rebaseRules, stripPrefix_append m p hm hp]

/-! ## Witnesses -/

private def i (n : Int) : Node := .scalar none (.int n)
private def docAB : Node := .map none [(.str "a".toList, .map none [(.str "b".toList, .seq none [i 1, i 2])])]
private def pathAB : List PSeg := [.key "a".toList, .key "b".toList]

/-- Fix C11-1: `a: {b: [1,2]}` ⊕ `[3]` at `a.b` with
arrays=right gives `a: {b: [3]}` (the pinned code leaves the document unchanged). -/
example : mergeAt { arrayCli := some .right } docAB (.create pathAB) (.seq none [i 3]) =
    .ok (.map none [(.str "a".toList, .map none [(.str "b".toList, .seq none [i 3])])]) := by decide +kernel

/-- Two targets under a wildcard (`a.*`), hashes=right: both are replaced. -/
example : mergeAt { hashCli := some .right }
    (.map none [(.str "a".toList, .seq none [.map none [(.str "k".toList, i 1)], .map none [(.str "k".toList, i 2)]])])
    (.existing [[.key (.str "a".toList), .idx 0], [.key (.str "a".toList), .idx 1]])
    (.map none [(.str "x".toList, i 1)]) =
    .ok (.map none [(.str "a".toList, .seq none [.map none [(.str "x".toList, i 1)], .map none [(.str "x".toList, i 1)]])]) := by
  decide +kernel

/-- A missing path is created to hold the right-hand document; an empty left document too (C11-2). -/
example : mergeAt {} (.map none [(.str "a".toList, i 1)]) (.create [.key "b".toList, .key "c".toList])
    (.map none [(.str "x".toList, i 1)]) =
    .ok (.map none [(.str "a".toList, i 1),
      (.str "b".toList, .map none [(.str "c".toList, .map none [(.str "x".toList, i 1)])])]) := by decide +kernel
example : mergeAt {} (.scalar none .null) (.create pathAB) (.map none [(.str "x".toList, i 1)]) =
    .ok (.map none [(.str "a".toList, .map none [(.str "b".toList, .map none [(.str "x".toList, i 1)])])]) := by
  decide +kernel

/-- Not creatable: a key below a Scalar. -/
example : mergeAt {} (.map none [(.str "a".toList, i 1)]) (.create [.key "a".toList, .key "c".toList])
    (.map none [(.str "x".toList, i 1)]) = .error (.ypath .generic) := by decide +kernel

/-- The known finding `scalar-rhs-retyped` (why `mergeat_target_is_c05_merge_partial` is partial):
`{a: 1}` ⊕ `"5"` at `a` stores the integer 5, the C05 merge of `1` and `"5"` is the text. -/
example : mergeAt {} (.map none [(.str "a".toList, i 1)]) (.create [.key "a".toList]) (.scalar none (.str "5".toList)) =
    .ok (.map none [(.str "a".toList, i 5)]) := by decide +kernel
example : c05 {} (i 1) (.scalar none (.str "5".toList)) = .ok (.scalar none (.str "5".toList)) := by decide +kernel
example : Retyped false (i 1) (.scalar none (.str "5".toList)) = true := by decide +kernel

/-- `strip_path_prefix` compares texts: a rule for `/a/bc/x` is (wrongly) re-based on the merge path
`/a/b` to the single key `c/x` (mirrored; observation in `notes/C11.md`). -/
example : stripPrefix ["a".toList, "bc".toList, "x".toList] ["a".toList, "b".toList] = ["c/x".toList] := by
  decide +kernel

/-- The hypotheses of `mergeat_meets_spec_partial` are met by a non-trivial case. -/
example : Retyped false (.seq none [i 1]) (.seq none [i 3]) = false := by decide +kernel

/-- `set_value_keeps_iff` on concrete texts: `5`, `true`, `1.5` are re-typed, `abc` is kept -/
example : newScalar false (.str "5".toList) .default = .ok (.int 5) ∧
    newScalar false (.str "true".toList) .default = .ok (.bool true) ∧
    eTypedValue "abc".toList = .str ∧ newScalar false (.str "abc".toList) .default = .ok (.str "abc".toList) := by
  decide +kernel
/-- `mergeat_creation_exact` is not vacuous: `a: [1]` ⊕ `9` at `a[2]` creates below `a` -/
example : (createPathN (.scalar none (.int 9)) (.map none [(.str ['a'], .seq none [.scalar none (.int 1)])])
    [.key ['a'], .index 2]).map (fun c => (c.doc, c.addr)) =
    .ok (.map none [(.str ['a'], .seq none [.scalar none (.int 1), .scalar none (.int 9), .scalar none (.int 9)])],
         [.key (.str ['a']), .idx 2]) := by decide +kernel

end Ypv.MergeAt
