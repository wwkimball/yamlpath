import Ypv.Lemmas.Edit
/-!
# C04 — a delete removes exactly the matched nodes, whatever their number or position

Model: `Ypv.delete` (`Model/Edit.lean`) = `Processor.delete_nodes` / `delete_gathered_nodes` /
`_delete_nodes` as repaired by `fixes/C04-1.patch`, over the list of matched addresses (any list:
repeats, any order, nested, the root).  Specification: `Ypv.deleteSpec` / `Node.removeAll`
(`Spec/Edit.lean`).  `deletePositional` is the pinned reverse-order loop.
-/
namespace Ypv.C04
open Ypv

/-- **delete_root_refused.** If the root is among the matched nodes the outcome is the
"no document" YAML Path error and no document is produced: nothing is deleted (the caller keeps `d`). -/
theorem delete_root_refused (d : Node) (addrs : List Addr) (h : [] ∈ addrs) :
    delete d addrs = .error (.ypath .noDocument) :=
  if_pos (List.contains_iff_mem.mpr h)

/-- **reverse_positional_eq_set_removal.** The lemma that makes gather-then-delete correct: when no
gathered reference is disturbed by one standing later in the list (`NoDisturb`: later references are
never the same element, an elder sibling, or an elder sibling of an ancestor within a sequence — true of
every list in document order without repeats, and of the normalised list of the repaired code),
deleting the gathered positions one by one in reverse equals removing the set. -/
theorem reverse_positional_eq_set_removal (d : Node) (addrs : List Addr) (h : NoDisturb addrs) :
    deletePositional d addrs = d.removeAll addrs := by
  induction addrs with
  | nil => exact (removeAll_nil d).symm
  | cons a rest ih =>
    have hp := List.pairwise_cons.mp h
    exact (congrArg (·.removeAt a) (ih hp.2)).trans (removeAt_removeAll d rest a hp.1)

/-- The normalisation of the repaired `_delete_nodes` establishes the premise for any input. -/
theorem normalize_noDisturb (addrs : List Addr) :
    NoDisturb (normalizeAddrs addrs) ∧ ∀ x, x ∈ normalizeAddrs addrs ↔ x ∈ addrs :=
  -- sorted by (depth, last index) without repeats: what would disturb stands earlier, or is the address itself
  ⟨(keyOrd_sortAddrs _ (nodup_dedupAddrs addrs)).imp fun {a b} ⟨hk, hne⟩ =>
      Bool.eq_false_iff.mpr fun hd => (disturbs_key b a hd).elim (fun h => Bool.noConfusion (hk.symm.trans h)) hne,
    fun _ => mem_sortAddrs.trans mem_dedupAddrs⟩

/-- **delete_eq_spec.** For every document and every list of matched addresses — several in one
sequence, empty containers, the same address listed more than once, in any order, ancestors together
with their descendants — deleting yields exactly the document minus the matched set
(removing an ancestor subsumes its descendants), or the root refusal. -/
theorem delete_eq_spec (d : Node) (addrs : List Addr) : delete d addrs = deleteSpec d addrs := by
  by_cases h : [] ∈ addrs
  · rw [delete_root_refused d addrs h, deleteSpec, if_pos h]
  · rw [deleteSpec, if_neg h, delete, if_neg (mt List.contains_iff_mem.mp h),
      reverse_positional_eq_set_removal _ _ (normalize_noDisturb addrs).1,
      removeAll_congr d _ _ (normalize_noDisturb addrs).2]

/-- **delete_frame.** What survives a set removal, level by level:
the surviving elements of a sequence are exactly those whose position is not matched, in their
original relative order, each one cleaned of the matched addresses below it; likewise the entries of
a mapping (keys unchanged); and a subtree below which no address is matched is returned unchanged.
Together with `delete_eq_spec` this is the frame of every delete. -/
theorem delete_frame :
    (∀ (an : Option Str) (items : List Node) (S : List Addr),
      (Node.seq an items).removeAll S = .seq an ((items.zipIdx 0).filterMap (fun ci =>
        if S.contains [.idx ci.2] then none else some (ci.1.removeAll (subAddrs (.idx ci.2) S)))))
    ∧ (∀ (an : Option Str) (es : List (Key × Node)) (S : List Addr),
      (Node.map an es).removeAll S = .map an (es.filterMap (fun e =>
        if S.contains [.key e.1] then none else some (e.1, e.2.removeAll (subAddrs (.key e.1) S)))))
    ∧ (∀ (d : Node) (S : List Addr), (∀ p ∈ S, p = []) → d.removeAll S = d) :=
  ⟨fun an items S => congrArg (Node.seq an) (by
      generalize 0 = i
      induction items generalizing i with
      | nil => rfl
      | cons c cs ih =>
        rw [List.zipIdx_cons, List.filterMap_cons, removeAllList_cons, ih]
        cases S.contains [Ref.idx i] <;> rfl),
   fun an es S => congrArg (Node.map an) (by
      induction es with
      | nil => rfl
      | cons e es ih =>
        rw [List.filterMap_cons, removeAllEntries_cons, ih]
        cases S.contains [Ref.key e.1] <;> rfl),
   fun d S h => by
      induction S with
      | nil => exact removeAll_nil d
      | cons a S ih =>
        rw [h a List.mem_cons_self, removeAll_cons_nil, ih fun p hp => h p (List.mem_cons_of_mem _ hp)]⟩

/-! ### The hypotheses are met by concrete, non-trivial values; witnesses of the pinned defects -/

def l123 : Node := .map none [(.str ['l'], .seq none [.scalar none (.int 1), .scalar none (.int 2), .scalar none (.int 3)])]
def L (i : Nat) : Addr := [.key (.str ['l']), .idx i]

/-- document order without repeats satisfies `NoDisturb` -/
example : NoDisturb [L 0, L 2] := by unfold NoDisturb; decide +kernel
example : deletePositional l123 [L 0, L 2] = .map none [(.str ['l'], .seq none [.scalar none (.int 2)])] := by
  decide +kernel
/-- the same node twice: the pinned loop removes two elements (`(l[0])+(l[0])`), the repaired delete one -/
example : deletePositional l123 [L 0, L 0] = .map none [(.str ['l'], .seq none [.scalar none (.int 3)])] := by
  decide +kernel
example : delete l123 [L 0, L 0] = .ok (.map none [(.str ['l'], .seq none [.scalar none (.int 2), .scalar none (.int 3)])]) := by
  decide +kernel
/-- out of order: the pinned loop removes a wrong element (`(l[1])+(l[0])`) -/
example : deletePositional l123 [L 1, L 0] = .map none [(.str ['l'], .seq none [.scalar none (.int 2)])] := by
  decide +kernel
example : delete l123 [L 1, L 0] = .ok (.map none [(.str ['l'], .seq none [.scalar none (.int 3)])]) := by
  decide +kernel
/-- root among the matches: the pinned loop has already deleted `l[0]` when it refuses (`(/)+(l[0])`) -/
example : deletePinned l123 [[], L 0] =
    (.map none [(.str ['l'], .seq none [.scalar none (.int 2), .scalar none (.int 3)])], some (.ypath .noDocument)) := by
  decide +kernel
example : delete l123 [[], L 0] = .error (.ypath .noDocument) := by decide +kernel

/-- integer keys are keys of their own (`ports: {80: 1, 443: 2, '443': 3}`): deleting the member under the integer
`443` removes that member and neither its neighbours nor the member under the text `'443'`; an address that spells the
integer as text names another member (what a delete handed the segment text in place of the key would act on). -/
def ports : Node := .map none [(.str ['p'], .map none
  [(.int 80, .scalar none (.int 1)), (.int 443, .scalar none (.int 2)), (.str ['4', '4', '3'], .scalar none (.int 3))])]
example : delete ports [[.key (.str ['p']), .key (.int 443)]] = .ok (.map none [(.str ['p'], .map none
    [(.int 80, .scalar none (.int 1)), (.str ['4', '4', '3'], .scalar none (.int 3))])]) := by
  decide +kernel
example : delete ports [[.key (.str ['p']), .key (.str ['4', '4', '3'])]] ≠
    delete ports [[.key (.str ['p']), .key (.int 443)]] := by
  decide +kernel

end Ypv.C04
