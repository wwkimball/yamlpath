import Ypv.Lemmas.Compare
/-!
# C12 — search operators compare values by the documented typed rules

The model is `searchMatches` (`Model/Compare.lean`, a branch-for-branch mirror of
`Searches.search_matches` after `fixes/C12-1.patch`); the specification is `Spec.matches`, written
from the property statement.  Regular expressions are an oracle parameter `rx` of both.

* `matches_eq_spec` — for every operator, every scalar value and every term the model answers
  exactly what the specification demands (an answer on one side iff on the other).
* `matches_total` — for a well-formed term (`WellFormed`: both sides inside the modelled literal
  classes, and for `=~` the pattern compiles) the comparison returns a Boolean; and whatever the
  input, no crash outcome is reachable (`matches_never_crashes`); the only YAML Path error is the
  one for an invalid pattern (`matches_error_only_invalid_regex`).
* `inverted_is_complement` — at the segment, over any sequence of scalar candidates, the plain
  search yields exactly the positions whose candidate matches and the inverted search exactly the
  others, both in document order (`plain_is_filter`, `inverted_is_complement`,
  `inverted_list_site`); the same over records read at a named attribute (`attr_plain_is_filter`,
  `attr_inverted_is_complement`).
-/
namespace Ypv.C12
open Ypv

/-- The Boolean answer of an outcome, if it is one. -/
def answer : Except Err Bool → Option Bool
  | .ok b => some b
  | .error _ => none

/-- One ordering ladder against the specification's numeric/textual split; `Spec.accepts m` is the
table of the operator `m`. -/
theorem ladder_eq_spec (m : Method) (ok : Ordering → Bool) (txt : Str → Str → Bool)
    (h1 : ∀ o, ok o = Spec.accepts m o) (h2 : ∀ a b, txt a b = Spec.accepts m (Spec.textCmp a b))
    (th tn : Typed) (hay t : Str) :
    some (orderLadder ok txt th tn hay t) =
      (match th.ordNum?, tn.ordNum? with
       | some (m1, e1), some (m2, e2) => some (Spec.accepts m (decCmp m1 e1 m2 e2))
       | some _, none => some false
       | none, _ => some (Spec.accepts m (Spec.textCmp hay t))) := by
  unfold orderLadder
  generalize tn.ordNum? = n
  cases th with
  | bool _ | int _ | float _ _ =>
    cases n with
    | none => rfl
    | some q => exact congrArg some (h1 _)
  | _ => exact congrArg some (h2 hay t)

theorem accepts_gt (o : Ordering) : (o == .gt) = Spec.accepts .gt o := by cases o <;> rfl
theorem accepts_lt (o : Ordering) : (o == .lt) = Spec.accepts .lt o := by cases o <;> rfl
theorem accepts_ge (o : Ordering) : (o != .lt) = Spec.accepts .ge o := by cases o <;> rfl
theorem accepts_le (o : Ordering) : (o != .gt) = Spec.accepts .le o := by cases o <;> rfl

/-- The four text orderings of the model against the three-way comparison of the specification. -/
theorem txt_orders (a b : Str) :
    strLt b a = Spec.accepts .gt (Spec.textCmp a b) ∧ strLt a b = Spec.accepts .lt (Spec.textCmp a b) ∧
    strLe b a = Spec.accepts .ge (Spec.textCmp a b) ∧ strLe a b = Spec.accepts .le (Spec.textCmp a b) := by
  rcases textCmp_cases a b with ⟨h, h1, h2⟩ | ⟨h, h1, h2⟩ | ⟨h, h1, h2⟩
  all_goals
    rw [strLe, strLe, h, h1, h2]
    exact ⟨rfl, rfl, rfl, rfl⟩

/-- **C12 (a)**.  The model of `search_matches` equals the specification: for every operator,
value and term, either both give the same Boolean or neither gives one. -/
theorem matches_eq_spec (rx : Str → Str → Option Bool) (m : Method) (value : Scalar) (term : Str) :
    answer (searchMatches rx m value term) = Spec.matches rx m value term := by
  unfold searchMatches searchTyped
  show _ = if _ then none else _
  generalize typedOfScalar value = th
  generalize typedValue term = tn
  generalize pyStr value = hay
  cases hu : (th = .unmodelled || tn = .unmodelled) with
  | true => rfl
  | false =>
    rw [if_neg Bool.false_ne_true, if_neg Bool.false_ne_true]
    cases m with
    | equals =>
      -- the two equality ladders list the same alternatives in a different order
      refine .trans ?_ (if_neg Bool.false_ne_true).symm
      rw [← Bool.beq_eq_decide_eq hay term]
      cases th with
      | bool _ | int _ | float _ _ => cases tn <;> rfl
      | _ => rfl
    | contains => exact congrArg some (pyContains_eq_spec hay term)
    | endsWith => exact congrArg some (pyEndsWith_eq_spec hay term)
    | startsWith => exact congrArg some (pyStartsWith_eq_spec hay term)
    | regex =>
      refine .trans ?_ (if_neg Bool.false_ne_true).symm
      cases rx term hay <;> rfl
    | gt => exact ladder_eq_spec .gt _ _ accepts_gt (fun a b => (txt_orders a b).1) th tn hay term
    | lt => exact ladder_eq_spec .lt _ _ accepts_lt (fun a b => (txt_orders a b).2.1) th tn hay term
    | ge => exact ladder_eq_spec .ge _ _ accepts_ge (fun a b => (txt_orders a b).2.2.1) th tn hay term
    | le => exact ladder_eq_spec .le _ _ accepts_le (fun a b => (txt_orders a b).2.2.2) th tn hay term

/-- A term is well-formed for a value and an operator: both sides lie inside the modelled literal
classes and, for `=~`, the pattern compiles (the oracle has an answer). -/
def WellFormed (rx : Str → Str → Option Bool) (m : Method) (value : Scalar) (term : Str) : Bool :=
  typedOfScalar value != .unmodelled && typedValue term != .unmodelled &&
    (m != .regex || (rx term (pyStr value)).isSome)

/-- The three ways `search_matches` can end: a Boolean, a side outside the modelled literal classes,
a pattern that does not compile. -/
theorem searchTyped_cases (rx : Str → Str → Option Bool) (m : Method) (th tn : Typed) (hay needle : Str) :
    (∃ b, searchTyped rx m th tn hay needle = .ok b) ∨
    (searchTyped rx m th tn hay needle = .error .outOfModel ∧ (th = .unmodelled ∨ tn = .unmodelled)) ∨
    (searchTyped rx m th tn hay needle = .error (.ypath .generic) ∧ m = .regex ∧ rx needle hay = none) := by
  unfold searchTyped
  split
  · rename_i hu
    exact .inr (.inl ⟨rfl, by simpa using hu⟩)
  · cases m with
    | regex =>
      cases hr : rx needle hay with
      | none => exact .inr (.inr ⟨rfl, rfl, rfl⟩)
      | some b => exact .inl ⟨b, rfl⟩
    | equals => simp only []; split <;> exact .inl ⟨_, rfl⟩
    | _ => exact .inl ⟨_, rfl⟩

/-- **C12 (b)**.  For a well-formed term the comparison returns a Boolean: never an error. -/
theorem matches_total (rx : Str → Str → Option Bool) (m : Method) (value : Scalar) (term : Str)
    (h : WellFormed rx m value term = true) : ∃ b, searchMatches rx m value term = .ok b := by
  simp only [WellFormed, Bool.and_eq_true, bne_iff_ne, ne_eq, Bool.or_eq_true] at h
  obtain ⟨⟨h1, h2⟩, h3⟩ := h
  rcases searchTyped_cases rx m (typedOfScalar value) (typedValue term) (pyStr value) term with
    hb | ⟨_, hu⟩ | ⟨_, hm, hr⟩
  · exact hb
  · exact (hu.elim h1 h2).elim
  · rw [hr] at h3
    rcases h3 with h3 | h3
    · exact absurd hm h3
    · cases h3

/-- Whatever the input, the comparison never ends in a crash outcome (any Python exception outside
the library's own family): an invalid regular expression is a YAML Path error (fix 149bd27). -/
theorem matches_never_crashes (rx : Str → Str → Option Bool) (m : Method) (value : Scalar)
    (term : Str) (k : CrashKind) : searchMatches rx m value term ≠ .error (.crash k) := by
  intro h
  rcases searchTyped_cases rx m (typedOfScalar value) (typedValue term) (pyStr value) term with
    ⟨b, hb⟩ | ⟨he, _⟩ | ⟨he, _⟩
  · cases hb.symm.trans h
  · cases he.symm.trans h
  · cases he.symm.trans h

/-- The only YAML Path error the comparison raises is the one for a regular expression that does
not compile. -/
theorem matches_error_only_invalid_regex (rx : Str → Str → Option Bool) (m : Method) (value : Scalar)
    (term : Str) (y : YKind) (h : searchMatches rx m value term = .error (.ypath y)) :
    y = .generic ∧ m = .regex ∧ rx term (pyStr value) = none := by
  rcases searchTyped_cases rx m (typedOfScalar value) (typedValue term) (pyStr value) term with
    ⟨b, hb⟩ | ⟨he, _⟩ | ⟨he, hm, hr⟩
  · cases hb.symm.trans h
  · cases he.symm.trans h
  · cases he.symm.trans h
    exact ⟨rfl, hm, hr⟩

/-! ## Inversion at the segment -/

/-- "The candidate matches". -/
def hit (rx : Str → Str → Option Bool) (m : Method) (term : Str) (c : Scalar) : Bool :=
  searchMatches rx m c term == .ok true

theorem hit_of_ok {rx : Str → Str → Option Bool} {m : Method} {term : Str} {c : Scalar} {b : Bool}
    (h : searchMatches rx m c term = .ok b) : hit rx m term c = b := by
  simp only [hit, h]; cases b <;> rfl

/-- The positions `i, i+1, …` of the candidates that satisfy `p`. -/
def positions {α : Type} (p : α → Bool) : List α → Nat → List Nat
  | [], _ => []
  | c :: cs, i => if p c then i :: positions p cs (i + 1) else positions p cs (i + 1)

theorem scan_eq (rx : Str → Str → Option Bool) (inv : Bool) (m : Method) (term : Str)
    (cs : List Scalar) (i : Nat) (h : ∀ c ∈ cs, WellFormed rx m c term = true) :
    searchScan rx inv m term cs i = (positions (fun c => hit rx m term c != inv) cs i, none) := by
  induction cs generalizing i with
  | nil => rfl
  | cons c cs ih =>
    obtain ⟨b, hb⟩ := matches_total rx m c term (h c List.mem_cons_self)
    simp only [searchScan, positions, hb, hit_of_ok hb, yieldIf_eq_bne,
      ih (i + 1) fun c' hc' => h c' (List.mem_cons_of_mem _ hc')]

/-- **C12 (c₁)**.  The plain search over a sequence of candidates with a well-formed term
yields exactly the positions of the matching candidates, in order, and ends normally. -/
theorem plain_is_filter (rx : Str → Str → Option Bool) (m : Method) (term : Str) (cs : List Scalar)
    (h : ∀ c ∈ cs, WellFormed rx m c term = true) :
    searchScan rx false m term cs 0 = (positions (fun c => hit rx m term c) cs 0, none) := by
  simp only [scan_eq rx false m term cs 0 h, Bool.bne_false]

/-- **C12 (c₂)**.  The inverted search yields exactly the positions of the candidates the plain
search does not yield (`¬ matches`), in order. -/
theorem inverted_is_complement (rx : Str → Str → Option Bool) (m : Method) (term : Str) (cs : List Scalar)
    (h : ∀ c ∈ cs, WellFormed rx m c term = true) :
    searchScan rx true m term cs 0 = (positions (fun c => !hit rx m term c) cs 0, none) := by
  simp only [scan_eq rx true m term cs 0 h, Bool.bne_true]

theorem le_of_mem_positions {α : Type} (p : α → Bool) (cs : List α) (i : Nat) : ∀ j ∈ positions p cs i, i ≤ j := by
  intro j h
  induction cs generalizing i with
  | nil => cases h
  | cons c cs ih =>
    unfold positions at h
    split at h
    · rcases List.mem_cons.mp h with e | e
      · exact Nat.le_of_eq e.symm
      · exact Nat.le_of_succ_le (ih (i + 1) e)
    · exact Nat.le_of_succ_le (ih (i + 1) h)

/-- Every position of a list is among the positions of `p` or among those of its negation, not both. -/
theorem positions_partition {α : Type} (p : α → Bool) : ∀ (cs : List α) (i j : Nat),
    i ≤ j → j < i + cs.length →
      ((j ∈ positions p cs i ∧ j ∉ positions (fun c => !p c) cs i) ∨
       (j ∉ positions p cs i ∧ j ∈ positions (fun c => !p c) cs i))
  | cs, i, j, h1, h2 => by
    induction cs generalizing i with
    | nil => exact absurd h2 (Nat.not_lt.mpr h1)
    | cons c cs ih =>
      unfold positions
      rcases Nat.eq_or_lt_of_le h1 with e | hlt
      · -- the head's own position: later positions are larger
        subst e
        have n1 := fun h => Nat.lt_irrefl _ (le_of_mem_positions p cs (i + 1) i h)
        have n2 := fun h => Nat.lt_irrefl _ (le_of_mem_positions (fun c => !p c) cs (i + 1) i h)
        cases p c
        · exact .inr ⟨n1, List.mem_cons_self⟩
        · exact .inl ⟨List.mem_cons_self, n2⟩
      · replace ih := ih (i + 1) hlt (by rw [Nat.add_right_comm]; exact h2)
        have ne : j ≠ i := Nat.ne_of_gt hlt
        cases p c
        · simpa only [Bool.false_eq_true, if_false, Bool.not_false, if_true, List.mem_cons, ne, false_or] using ih
        · simpa only [Bool.not_true, Bool.false_eq_true, if_false, if_true, List.mem_cons, ne, false_or] using ih

/-- The list site (`[.<op>term]` over a list): unless the list consists of nulls only (where the
code raises on `term in None`, a matter of C15), it is the same scan. -/
theorem inverted_list_site (rx : Str → Str → Option Bool) (inv : Bool) (m : Method) (term : Str)
    (cs : List Scalar) (hn : (!cs.isEmpty && cs.all (· = .null)) = false)
    (h : ∀ c ∈ cs, WellFormed rx m c term = true) :
    searchListSite rx inv m term cs = (positions (fun c => hit rx m term c != inv) cs 0, none) := by
  unfold searchListSite
  simp only [hn, Bool.false_eq_true, if_false]
  exact scan_eq rx inv m term cs 0 h

/-! ## The named-attribute site over a list of records -/

/-- "The record matches": it has a value at the attribute and that value matches.  A record with no
value at the attribute (`none`) matches no plain search, whatever the operator and the term. -/
def hitOpt (rx : Str → Str → Option Bool) (m : Method) (term : Str) : Option Scalar → Bool
  | none => false
  | some c => hit rx m term c

theorem attr_scan_eq (rx : Str → Str → Option Bool) (inv : Bool) (m : Method) (term : Str)
    (cs : List (Option Scalar)) (i : Nat) (h : ∀ c, some c ∈ cs → WellFormed rx m c term = true) :
    searchAttrScan rx inv m term cs i = (positions (fun o => hitOpt rx m term o != inv) cs i, none) := by
  induction cs generalizing i with
  | nil => rfl
  | cons o cs ih =>
    replace ih := ih (i + 1) fun c' hc' => h c' (List.mem_cons_of_mem _ hc')
    cases o with
    | none =>
      simp only [searchAttrScan, positions, yieldIf_eq_bne, ih]
      rfl
    | some c =>
      obtain ⟨b, hb⟩ := matches_total rx m c term (h c List.mem_cons_self)
      have hh : hitOpt rx m term (some c) = b := hit_of_ok hb
      simp only [searchAttrScan, positions, hb, hh, yieldIf_eq_bne, ih]

/-- **C12 (c₃)**.  A plain search on a named attribute over a list of records yields exactly the
positions of the records that HAVE a value at the attribute and whose own value matches, in order:
each record is answered from its own value, a record without the attribute is never selected. -/
theorem attr_plain_is_filter (rx : Str → Str → Option Bool) (m : Method) (term : Str)
    (cs : List (Option Scalar)) (h : ∀ c, some c ∈ cs → WellFormed rx m c term = true) :
    searchAttrScan rx false m term cs 0 = (positions (fun o => hitOpt rx m term o) cs 0, none) := by
  simp only [attr_scan_eq rx false m term cs 0 h, Bool.bne_false]

/-- **C12 (c₄)**.  The inverted search on a named attribute yields exactly the records the plain
search does not yield - those whose own value does not match and those with no value there
(`positions_partition` says the two results partition the list). -/
theorem attr_inverted_is_complement (rx : Str → Str → Option Bool) (m : Method) (term : Str)
    (cs : List (Option Scalar)) (h : ∀ c, some c ∈ cs → WellFormed rx m c term = true) :
    searchAttrScan rx true m term cs 0 = (positions (fun o => !hitOpt rx m term o) cs 0, none) := by
  simp only [attr_scan_eq rx true m term cs 0 h, Bool.bne_true]

/-! ## Witnesses: the hypotheses are met, and the typed rules are the intended ones -/

def noRegex : Str → Str → Option Bool := fun _ _ => none

example : searchMatches noRegex .equals (.int 5) "5".toList = .ok true := by decide +kernel
example : searchMatches noRegex .equals (.int 5) "5.0".toList = .ok false := by decide +kernel
example : searchMatches noRegex .equals (.float 5 0) "5.0".toList = .ok true := by decide +kernel
example : searchMatches noRegex .equals (.float 15 (-1)) "1.50".toList = .ok true := by decide +kernel
example : searchMatches noRegex .equals (.bool true) "tRuE".toList = .ok true := by decide +kernel
/-- a Boolean does not equal a number (the pinned code answered `true`: `fixes/C12-1.patch`) -/
example : searchMatches noRegex .equals (.bool true) "1".toList = .ok false := by decide +kernel
example : searchMatches noRegex .gt (.int 10) "9".toList = .ok true := by decide +kernel
example : searchMatches noRegex .gt (.str "10".toList) "9".toList = .ok true := by decide +kernel
example : searchMatches noRegex .gt (.str "b".toList) "ab".toList = .ok true := by decide +kernel
example : searchMatches noRegex .gt (.int 10) "abc".toList = .ok false := by decide +kernel
example : searchMatches noRegex .le (.float 25 (-1)) "3".toList = .ok true := by decide +kernel
/-- the text tests act on the value's own text (the pinned code answered `false`) -/
example : searchMatches noRegex .startsWith (.str "1.50".toList) "1.50".toList = .ok true := by decide +kernel
example : searchMatches noRegex .endsWith (.float 15 (-1)) ".5".toList = .ok true := by decide +kernel
example : searchMatches noRegex .contains .null "on".toList = .ok true := by decide +kernel
example : searchMatches noRegex .regex (.int 5) "*".toList = .error (.ypath .generic) := by decide +kernel
example : WellFormed noRegex .equals (.str "abc".toList) "1e5".toList = true := by decide +kernel
example : WellFormed noRegex .regex (.int 5) "*".toList = false := by decide +kernel
example : searchScan noRegex true .gt "4".toList [.int 5, .int 3, .str "x".toList, .float 45 (-1)] 0
    = ([1], none) := by decide +kernel
example : searchScan noRegex false .gt "4".toList [.int 5, .int 3, .str "x".toList, .float 45 (-1)] 0
    = ([0, 2, 3], none) := by decide +kernel
example : pyStr (.float 1 16) = "1e+16".toList := by decide +kernel
example : pyStr (.float 15 (-6)) = "1.5e-05".toList := by decide +kernel
example : typedValue "1_0.50e1".toList = .float 105 0 := by decide +kernel

/-- the record without the attribute is not selected although it follows a matching record; it belongs to the inverted result -/
example : searchAttrScan noRegex false .equals "8080".toList [some (.int 8080), none, some (.int 9090), some (.int 8080), none] 0
    = ([0, 3], none) := by decide +kernel
example : searchAttrScan noRegex true .equals "8080".toList [some (.int 8080), none, some (.int 9090), some (.int 8080), none] 0
    = ([1, 2, 4], none) := by decide +kernel

end Ypv.C12
