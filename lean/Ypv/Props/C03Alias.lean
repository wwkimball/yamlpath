import Ypv.Lemmas.EditCreate
import Ypv.Model.Alias
/-!
# C03 (histories that acquire anchors): `alias_nodes` changes exactly the matched nodes

C03 speaks about sets "after any sequence of such edits" on documents with anchors and aliases; a
document can ACQUIRE its anchors during the history (`Processor.alias_nodes`, what `yaml-set --aliasof`
calls).  These theorems say what one alias step does in the value model (`Model/Alias.lean`): the
source node and every matched node become the same anchored node, nothing else changes, and a name
the document already uses is refused.  They are the single-step semantics the history layer of
`harness/props/c03.py` compares the real `alias_nodes` with; after the step the document is an ordinary
anchored document and the set theorems of `Props/C03.lean` apply to it.
-/
namespace Ypv.C03
open Ypv Ypv.Alias

/-- neither address is on the way to the other -/
def Unrelated (a b : Addr) : Prop := ¬ a <+: b ∧ ¬ b <+: a

def NoMember (q : Addr) : Prop := ∀ r ∈ q, ∀ k, r ≠ Ref.member k

/-- an address unrelated to every grafted one sees the same node after the whole pass -/
theorem fold_frame (an : Node) (ts : List Addr) (acc : Node) (y : Addr) (h : ∀ t ∈ ts, Unrelated y t) :
    (ts.foldl (fun a t => a.graftAt (fun _ => an) t) acc).get? y = acc.get? y := by
  induction ts generalizing acc with
  | nil => rfl
  | cons t ts ih =>
    exact (ih _ fun t' ht' => h t' (List.mem_cons_of_mem _ ht')).trans
      (get?_graftAt_frame _ t acc y (h t List.mem_cons_self).1 (h t List.mem_cons_self).2)

/-- every grafted address holds the new node after the pass -/
theorem fold_targets (an : Node) (ts : List Addr) (acc : Node) (hp : ts.Pairwise Unrelated)
    (hex : ∀ t ∈ ts, ∃ m, acc.get? t = some m) (hnm : ∀ t ∈ ts, NoMember t) :
    ∀ t ∈ ts, (ts.foldl (fun a t => a.graftAt (fun _ => an) t) acc).get? t = some an := by
  induction ts generalizing acc with
  | nil => exact fun _ h => nomatch h
  | cons t0 ts ih =>
    intro t ht
    rw [List.pairwise_cons] at hp
    rcases List.mem_cons.mp ht with rfl | ht'
    · obtain ⟨m, hm⟩ := hex t List.mem_cons_self
      have := get?_graftAt_below (fun _ => an) t acc m [] hm (hnm t List.mem_cons_self)
      rw [List.append_nil] at this
      exact (fold_frame an ts _ t hp.1).trans this
    · refine ih _ hp.2 (fun t' ht'' => ?_) (fun t' ht'' => hnm t' (List.mem_cons_of_mem _ ht'')) t ht'
      rw [get?_graftAt_frame _ t0 acc t' (hp.1 t' ht'').2 (hp.1 t' ht'').1]
      exact hex t' (List.mem_cons_of_mem _ ht'')

/-- **alias_exact_partial.**  `alias_nodes` over the source address `src` and the matched addresses `targets`
(pairwise unrelated, none on the way to or below the source, none a set member, all present), for a
source node that carries no anchor yet or already carries the settled name (`hsrc`): when it goes
ahead the source node `n` has received the settled name and
* the source address and EVERY matched address hold that one anchored node (so all of them are the
  same node of the alias-expanded document: the matched nodes are now its aliases),
* the anchored node is `n` with the name set — its value is untouched,
* every address that is neither on the way to nor below the source or a matched address leads to the
  same node as before (nothing else changed).
PARTIAL — what is missing: a source that already carries a DIFFERENT anchor name.  Python renames the one
shared object, so every alias of the old name is renamed too; the model does that (`renameAnchor`,
compared with the real code on every run), the frame clause would then hold "up to that renaming" and
is not proved. -/
theorem alias_exact_partial (d : Node) (src : Addr) (given : Option Str) (fresh : Str) (targets : List Addr)
    (d' an : Node) (h : aliasNodes d src given fresh targets = .ok (d', an))
    (hp : (src :: targets).Pairwise Unrelated) (hex : ∀ t ∈ targets, ∃ m, d.get? t = some m)
    (hnm : ∀ t ∈ src :: targets, NoMember t)
    (hsrc : ∀ n name, d.get? src = some n → settleName d n given fresh = .ok name →
      n.anchor = none ∨ n.anchor = some name) :
    (∃ n name, d.get? src = some n ∧ settleName d n given fresh = .ok name ∧ an = withAnchor name n) ∧
    d'.get? src = some an ∧ (∀ t ∈ targets, d'.get? t = some an) ∧
    (∀ y, (∀ t ∈ src :: targets, Unrelated y t) → d'.get? y = d.get? y) := by
  unfold aliasNodes at h
  split at h
  · cases h
  · next n hs =>
    split at h
    · cases h
    · next name hn =>
      -- under `hsrc` nothing is renamed
      have h : (targets.foldl (fun acc t => acc.graftAt (fun _ => withAnchor name n) t)
          (d.graftAt (fun _ => withAnchor name n) src), withAnchor name n) = (d', an) := by
        rcases hsrc n name hs hn with h0 | h0 <;> simpa only [h0, ↓reduceIte, Except.ok.injEq] using h
      cases h
      -- the pass is the fold over `src :: targets`
      have hall := fold_targets (withAnchor name n) (src :: targets) d hp
        (fun t ht => (List.mem_cons.mp ht).elim (fun e => ⟨n, e ▸ hs⟩) (hex t)) hnm
      exact ⟨⟨n, name, hs, hn, rfl⟩, hall src List.mem_cons_self, fun t ht => hall t (List.mem_cons_of_mem _ ht),
        fold_frame _ (src :: targets) d⟩

/-- **alias_name_unique.**  A requested anchor name the document already uses is refused (the library's
`BadAliasYAMLPathException`) and nothing is changed. -/
theorem alias_name_unique (d n : Node) (src : Addr) (a fresh : Str) (targets : List Addr)
    (hs : d.get? src = some n) (ha : a ∈ anchorsOf d) :
    aliasNodes d src (some a) fresh targets = .error .nameTaken := by
  simp [aliasNodes, hs, settleName, ha]

/-- A node that has an anchor keeps it when no name is asked for. -/
theorem alias_keeps_own_name (d n : Node) (fresh own : Str) (ho : n.anchor = some own) :
    settleName d n none fresh = .ok own := by
  simp [settleName, ho]

/-- the anchored node carries the settled name and the source node's content -/
theorem withAnchor_anchor (a : Str) (n : Node) : (withAnchor a n).anchor = some a := by
  cases n <;> rfl

/-! ### The hypotheses are met; a concrete step -/

/-- `{a: 1, b: [2, 3], c: 4}`; `alias_nodes("b[1]" and "c", anchor_path="a", anchor_name="x")` -/
def exDoc : Node := .map none [(.str ['a'], .scalar none (.int 1)),
  (.str ['b'], .seq none [.scalar none (.int 2), .scalar none (.int 3)]), (.str ['c'], .scalar none (.int 4))]
def exOut : Node := .map none [(.str ['a'], .scalar (some ['x']) (.int 1)),
  (.str ['b'], .seq none [.scalar none (.int 2), .scalar (some ['x']) (.int 1)]), (.str ['c'], .scalar (some ['x']) (.int 1))]
example : aliasNodes exDoc [.key (.str ['a'])] (some ['x']) ['i', 'd'] [[.key (.str ['b']), .idx 1], [.key (.str ['c'])]]
    = .ok (exOut, .scalar (some ['x']) (.int 1)) := by decide +kernel
example : aliasNodes exOut [.key (.str ['b']), .idx 0] (some ['x']) ['i', 'd'] [[.key (.str ['c'])]]
    = .error .nameTaken := by decide +kernel

/-- the missing case of `alias_exact_partial`, as the model (and the real code) behave: the source `a`
already carries `x`, shared with `b[1]` and `c`; asking for the name `y` renames the shared node everywhere -/
example : aliasNodes exOut [.key (.str ['a'])] (some ['y']) ['i', 'd'] []
    = .ok (.map none [(.str ['a'], .scalar (some ['y']) (.int 1)),
        (.str ['b'], .seq none [.scalar none (.int 2), .scalar (some ['y']) (.int 1)]), (.str ['c'], .scalar (some ['y']) (.int 1))],
      .scalar (some ['y']) (.int 1)) := by decide +kernel

end Ypv.C03
