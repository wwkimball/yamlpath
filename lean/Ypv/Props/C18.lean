import Ypv.Model.MultiDoc
/-!
# C18 — multi-document merges combine documents as the selected mode defines

All theorems are about `Ypv.MultiDoc` (the model of `merge_condense_all`, `merge_across`,
`merge_matrix`, `merge_docs` in `yamlpath/commands/yaml_merge.py`) for an **arbitrary** pairwise
merge `m`, an arbitrary classification `cls` of its failures, and streams of arbitrary length.
-/
namespace Ypv.C18
open Ypv Ypv.MultiDoc

variable {ε : Type} (m : Node → Node → Except ε Node) (cls : ε → Cls)

/-- The left fold of the pairwise merge over a list of documents, failing at the first failure. -/
def foldMerge (p : Node) : List Node → Except ε Node
  | [] => .ok p
  | d :: ds => match m p d with
    | .ok q => foldMerge q ds
    | .error e => .error e

theorem foldMerge_append (p : Node) (xs ys : List Node) :
    foldMerge m p (xs ++ ys) = (match foldMerge m p xs with
      | .ok q => foldMerge m q ys
      | .error e => .error e) := by
  induction xs generalizing p with
  | nil => rfl
  | cons x xs ih =>
    simp only [List.cons_append, foldMerge]
    cases m p x with
    | ok q => exact ih q
    | error e => rfl

theorem condenseLoop_fold (base : Nat) {ds : List Node} {p d : Node} (st : Nat)
    (h : foldMerge m p ds = .ok d) : condenseLoop m cls base ds (p, st) = .ok (d, st) := by
  induction ds generalizing p with
  | nil => simp only [foldMerge] at h; cases h; rfl
  | cons x xs ih =>
    simp only [foldMerge] at h
    unfold condenseLoop
    split at h
    · next q hm => rw [hm]; exact ih h
    · cases h

/-- CONDENSE_ALL yields exactly one document: when every pairwise merge
is defined, it is the left fold of every later document of the left-hand stream and then every
document of the right-hand stream, in order, into the first document — and the state is 0. -/
theorem condense_is_fold (l0 : Node) (ls rs : List Node) (d : Node)
    (h : foldMerge m l0 (ls ++ rs) = .ok d) :
    condenseAll m cls (l0 :: ls) rs = some (.ok ⟨[d], 0⟩) := by
  rw [foldMerge_append] at h
  split at h
  · next q h1 => simp only [condenseAll, condenseLoop_fold m cls 10 0 h1, condenseLoop_fold m cls 12 0 h]
  · cases h

theorem code_range {base c : Nat} {e : ε} (h : code cls base e = some c) : c = base + 1 ∨ c = base + 2 := by
  unfold code at h
  split at h
  · exact .inl (Option.some.inj h).symm
  · exact .inr (Option.some.inj h).symm
  · cases h

theorem condenseLoop_state {base : Nat} {ds : List Node} {p q : Node} {st st' : Nat}
    (h : condenseLoop m cls base ds (p, st) = .ok (q, st')) :
    st' = st ∨ st' = base + 1 ∨ st' = base + 2 := by
  induction ds generalizing p st with
  | nil => cases h; exact .inl rfl
  | cons x xs ih =>
    unfold condenseLoop at h
    split at h
    · exact ih h
    · split at h
      · next c hc => exact .inr ((ih h).elim (fun h' => h' ▸ code_range cls hc) id)
      · cases h

theorem condenseAll_ok {lhs rs : List Node} {o : Out} (h : condenseAll m cls lhs rs = some (.ok o)) :
    o.docs.length = 1 ∧ (o.state = 0 ∨ o.state = 11 ∨ o.state = 12 ∨ o.state = 13 ∨ o.state = 14) := by
  unfold condenseAll at h
  split at h
  · cases h
  · replace h := Option.some.inj h
    split at h
    · cases h
    · next acc1 h1 =>
      split at h
      · cases h
      · next p2 st h2 =>
        cases h
        refine ⟨rfl, ?_⟩
        have a1 := condenseLoop_state m cls h1
        rcases condenseLoop_state m cls h2 with a2 | a2 | a2
        · rw [a2]; exact a1.elim .inl (fun a => .inr (a.elim .inl (.inr ∘ .inl)))
        · exact .inr (.inr (.inr (.inl a2)))
        · exact .inr (.inr (.inr (.inr a2)))

/-- CONDENSE_ALL always leaves exactly one document, whatever fails. -/
theorem condense_count (lhs rs : List Node) (o : Out)
    (h : condenseAll m cls lhs rs = some (.ok o)) : o.docs.length = 1 :=
  (condenseAll_ok m cls h).1

theorem across_nil (rs : List Node) : across m cls [] rs = .ok ⟨rs, 0⟩ := by
  cases rs <;> rfl

/-- A failure is reported for a left-hand position only if that pairwise merge fails. -/
theorem across_is_zip (ls rs : List Node) (o : Out) (h : across m cls ls rs = .ok o)
    (h0 : o.state = 0) :
    o.docs.length = max ls.length rs.length ∧
    (∀ (i : Nat) l r, ls[i]? = some l → rs[i]? = some r → ∃ d, m l r = .ok d ∧ o.docs[i]? = some d) ∧
    (∀ i : Nat, rs.length ≤ i → o.docs[i]? = ls[i]?) ∧
    (∀ i : Nat, ls.length ≤ i → o.docs[i]? = rs[i]?) := by
  induction ls generalizing rs o with
  | nil =>
    rw [across_nil] at h; cases h
    exact ⟨(Nat.zero_max _).symm, nofun, fun i hi => List.getElem?_eq_none hi, fun _ _ => rfl⟩
  | cons l ls ih =>
    cases rs with
    | nil =>
      cases h
      exact ⟨(Nat.max_zero _).symm, nofun, fun _ _ => rfl, fun i hi => (List.getElem?_eq_none hi).trans rfl⟩
    | cons r rs =>
      unfold across at h
      split at h
      · next d hm =>
        split at h
        · next o' hr =>
          cases h
          obtain ⟨ih1, ih2, ih3, ih4⟩ := ih rs o' hr h0
          refine ⟨?_, ?_, ?_, ?_⟩
          · exact (congrArg Nat.succ ih1).trans (Nat.succ_max_succ _ _).symm
          · intro i l' r' hl hr'
            cases i with
            | zero => cases hl; cases hr'; exact ⟨d, hm, rfl⟩
            | succ i => exact ih2 i l' r' hl hr'
          · intro i hi
            cases i with
            | zero => cases hi
            | succ i => exact ih3 i (Nat.le_of_succ_le_succ hi)
          · intro i hi
            cases i with
            | zero => cases hi
            | succ i => exact ih4 i (Nat.le_of_succ_le_succ hi)
        · cases h
      · split at h
        · next c hc => cases h; rcases code_range cls hc with rfl | rfl <;> cases h0
        · cases h

theorem across_state {ls rs : List Node} {o : Out} (h : across m cls ls rs = .ok o) :
    o.state = 0 ∨ o.state = 31 ∨ o.state = 32 := by
  induction ls generalizing rs o with
  | nil => rw [across_nil] at h; cases h; exact .inl rfl
  | cons l ls ih =>
    cases rs with
    | nil => cases h; exact .inl rfl
    | cons r rs =>
      unfold across at h
      split at h
      · split at h
        · next o' hr => cases h; exact ih (o := o') hr
        · cases h
      · split at h
        · next c hc => cases h; exact .inr (code_range cls hc)
        · cases h

/-- One row of MATRIX_MERGE is the left fold of the whole right-hand stream into the left-hand
document when every step is defined. -/
theorem matrixRow_fold (rs : List Node) (l d : Node) (h : foldMerge m l rs = .ok d) :
    matrixRow m cls rs l = .ok (d, none) := by
  induction rs generalizing l with
  | nil => simp only [foldMerge] at h; cases h; rfl
  | cons r rs ih =>
    simp only [foldMerge] at h
    unfold matrixRow
    split at h
    · next q hm => rw [hm]; exact ih q h
    · cases h

/-- MATRIX_MERGE keeps the number and order of the left-hand documents,
and the `i`-th result is the row of the `i`-th left-hand document: every right-hand document, in
order, merged into it (`matrixRow`; by `matrixRow_fold` the full left fold when all steps are
defined) — independently of the other left-hand documents. -/
theorem matrix_is_product (rs ls : List Node) (st : Nat) (o : Out)
    (h : matrix m cls rs ls st = .ok o) :
    o.docs.length = ls.length ∧
    ∀ (i : Nat) l, ls[i]? = some l → ∃ d c, matrixRow m cls rs l = .ok (d, c) ∧ o.docs[i]? = some d := by
  induction ls generalizing st o with
  | nil => cases h; exact ⟨rfl, nofun⟩
  | cons l ls ih =>
    unfold matrix at h
    split at h
    · cases h
    · next d c hrow =>
      split at h
      · cases h
      · next o' hr =>
        cases h
        obtain ⟨ih1, ih2⟩ := ih _ o' hr
        refine ⟨congrArg Nat.succ ih1, fun i l' hl => ?_⟩
        cases i with
        | zero => cases hl; exact ⟨d, c, hrow, rfl⟩
        | succ i => exact ih2 i l' hl

/-- When every step of every row is defined the state stays what it was (0 from `merge_docs`). -/
theorem matrix_all_ok (rs ls : List Node) (st : Nat)
    (hall : ∀ l ∈ ls, ∃ d, foldMerge m l rs = .ok d) :
    ∃ ds, matrix m cls rs ls st = .ok ⟨ds, st⟩ ∧ ds.length = ls.length := by
  induction ls with
  | nil => exact ⟨[], rfl, rfl⟩
  | cons l ls ih =>
    obtain ⟨d, hd⟩ := hall l List.mem_cons_self
    obtain ⟨ds, hds, hlen⟩ := ih fun l' hl' => hall l' (List.mem_cons_of_mem _ hl')
    refine ⟨d :: ds, ?_, congrArg Nat.succ hlen⟩
    simp only [matrix, matrixRow_fold m cls rs l d hd, Option.getD_none, hds]

theorem matrixRow_code {rs : List Node} {l d : Node} {c : Nat}
    (h : matrixRow m cls rs l = .ok (d, some c)) : c = 41 ∨ c = 42 := by
  induction rs generalizing l with
  | nil => cases h
  | cons r rs ih =>
    unfold matrixRow at h
    split at h
    · exact ih h
    · split at h
      · next c' hc => cases h; exact code_range cls hc
      · cases h

theorem matrix_state {rs ls : List Node} {st : Nat} {o : Out}
    (h : matrix m cls rs ls st = .ok o) : o.state = st ∨ o.state = 41 ∨ o.state = 42 := by
  induction ls generalizing st o with
  | nil => cases h; exact .inl rfl
  | cons l ls ih =>
    unfold matrix at h
    split at h
    · cases h
    · next d c hrow =>
      split at h
      · cases h
      · next o' hr =>
        cases h
        cases c with
        | none => exact ih (o := o') hr
        | some c => exact .inr ((ih (o := o') hr).elim (fun h' => h' ▸ matrixRow_code m cls hrow) id)

/-- With status 0 the number of documents `merge_docs` leaves is determined by
the mode and the two stream lengths alone: 1, `max |L| |R|`, `|L|`. -/
theorem output_count (mode : Mode) (lhs rs : List Node) (o : Out)
    (h : mergeDocs m cls mode lhs (some rs) = some (.ok o)) (h0 : o.state = 0) :
    o.docs.length = (match mode with
      | .condenseAll => 1
      | .mergeAcross => max lhs.length rs.length
      | .matrixMerge => lhs.length) := by
  cases mode with
  | condenseAll => exact condense_count m cls lhs rs o h
  | mergeAcross => exact (across_is_zip m cls lhs rs o (Option.some.inj h) h0).1
  | matrixMerge => exact (matrix_is_product m cls rs lhs 0 o (Option.some.inj h)).1

/-- The state `merge_docs` returns: 3 for an unreadable right-hand file, otherwise 0
or the code of a caught failure of the mode's own range (11–14 / 31–32 / 41–42). -/
theorem exit_codes (mode : Mode) (lhs : List Node) (rhs : Option (List Node)) (o : Out)
    (h : mergeDocs m cls mode lhs rhs = some (.ok o)) :
    (rhs = none ∧ o.state = 3) ∨
    (rhs ≠ none ∧ (o.state = 0 ∨ (match mode with
      | .condenseAll => o.state = 11 ∨ o.state = 12 ∨ o.state = 13 ∨ o.state = 14
      | .mergeAcross => o.state = 31 ∨ o.state = 32
      | .matrixMerge => o.state = 41 ∨ o.state = 42))) := by
  cases rhs with
  | none => cases h; exact .inl ⟨rfl, rfl⟩
  | some rs =>
    refine .inr ⟨Option.some_ne_none rs, ?_⟩
    cases mode with
    | mergeAcross => exact across_state m cls (Option.some.inj h)
    | matrixMerge => exact matrix_state m cls (Option.some.inj h)
    | condenseAll => exact (condenseAll_ok m cls h).2

/-! ## The hypotheses are met by concrete, non-trivial values -/

/-- A toy pairwise merge: concatenation of sequences, failure on anything else. -/
def catMerge : Node → Node → Except Unit Node
  | .seq a xs, .seq _ ys => .ok (.seq a (xs ++ ys))
  | _, _ => .error ()

def sq (n : Nat) : Node := .seq none [.scalar none (.int n)]

example : condenseAll catMerge (fun _ => .merge) [sq 1, sq 2] [sq 3, sq 4]
    = some (.ok ⟨[.seq none [.scalar none (.int 1), .scalar none (.int 2), .scalar none (.int 3),
        .scalar none (.int 4)]], 0⟩) := by decide +kernel

example : across catMerge (fun _ => .merge) [sq 1] [sq 2, sq 3]
    = .ok ⟨[.seq none [.scalar none (.int 1), .scalar none (.int 2)], sq 3], 0⟩ := by decide +kernel

example : (matrix catMerge (fun _ => .merge) [sq 8, sq 9] [sq 1, sq 2] 0).map (·.docs.length) = .ok 2 := by
  decide +kernel

example : across catMerge (fun _ => .merge) [sq 1, .scalar none .null] [sq 2, sq 3]
    = .ok ⟨[.seq none [.scalar none (.int 1), .scalar none (.int 2)], .scalar none .null], 31⟩ := by
  decide +kernel

end Ypv.C18
