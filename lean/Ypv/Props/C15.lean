import Ypv.Lemmas.EvalKw
import Ypv.Props.C12
import Ypv.Lemmas.Collector
/-!
# C15 — evaluation fails only with YAML Path errors

Every partial Python operation the handlers use is a model function with a `crash` outcome
(`pyGetItem`: `IndexError`; `pyIn`: `TypeError` on `None`; `pyKeyBetween`: `TypeError` on `str <= int`;
`groupKey`: `TypeError` for an unhashable `dict` key in `unique`/`distinct`).  The theorems say that
behind the guards of the (fixed) code no crash outcome is reachable, for every document, every
segment list — KEYWORD_SEARCH segments included —, every integer index and slice bound, with **one
exception, the registered known finding C15-K1**: `[unique(…)]` / `[distinct(…)]` over a collection
with an unhashable (hash or list) member value raise `TypeError`.

* The matcher is not a hypothesis: `compare_matcher_safe` proves `MtSafe` for the matcher
  built from the comparison model (`W1.mtCompare rx orc`, from `W1.safe_searchTyped`), for every
  regex oracle; container haystacks are answered by the explicit oracle `orc` (`W1.noOracle`: out of
  model), so `queries_errors_are_ypath_compare` has no hypothesis about `search_matches` at all.
* `keyword_crash_only_K1`: at every node, for every keyword segment, a crash outcome is `TypeError`
  and the (segment, node) pair lies in the decidable class `W1.K1Class` (= C15-K1).
* `required_errors_are_ypath_partial`: no crash outcome of `_get_required_nodes` for a path without
  `unique`/`distinct` segments.  FULL STATEMENT (false for the pinned code, C15-K1): no crash outcome for
  every path.  The hypothesis excludes the finding's class *coarsened to the path*: the model does
  not track which nodes a path reaches, so "no reached node is in `K1Class s`" is stated as "no
  segment `s` can be in the class at all" (`ESeg.grouping s = false`); the exact, node-level class is
  the one of `keyword_crash_only_K1`.
The `example`s show the unguarded operations crash — which is what the pinned code did
(fixes/C15-1.patch) — and the kernel-checked witness of C15-K1.
-/
namespace Ypv.C15
open Ypv Ypv.Eval Gen

variable {mt : Matcher} {dsc : Desc} {rt : Node}

/-- **The matcher of the comparison model raises only YAML Path errors** (or out-of-model), for
every regex oracle `rx`, provided the oracle `orc` for container haystacks does: a scalar haystack
is compared by `searchMatches`, which never ends in a crash outcome (`W1.safe_searchTyped`; for a text
term this is also `C12.matches_never_crashes`). -/
theorem compare_matcher_safe (rx : Str → Str → Option Bool) {orc : Matcher} (horc : MtSafe orc) :
    MtSafe (W1.mtCompare rx orc) :=
  W1.mtSafe_mtCompare rx horc

/-- Without an oracle (container haystacks out of model) nothing is assumed at all. -/
theorem compare_matcher_safe_noOracle (rx : Str → Str → Option Bool) : MtSafe (W1.mtCompare rx W1.noOracle) :=
  compare_matcher_safe rx W1.mtSafe_noOracle

/-- **Where a keyword segment can crash** (any node `n`, any coordinates, any document root): a
crash outcome of `KeywordSearches.search_matches` is a `TypeError`, and the segment is
`unique`/`distinct` applied to a collection with an unhashable member value — the decidable class
`W1.K1Class` of the known finding C15-K1.  Outside that class no crash outcome is reachable. -/
theorem keyword_crash_only_K1 (rt : Node) (inv : Bool) (k : Keyword) (p : Str) (n : Node) (c : Ctx) (e : Err)
    (h : (kwStep rt inv k p n c).2 = some e) (hc : e.isCrash = true) :
    e = .crash .typeError ∧ W1.K1Class (.keyword inv k p) n = true :=
  W1.crash_kwStep rt inv k p n c e h hc

theorem keyword_no_crash_outside_K1 (rt : Node) (inv : Bool) (k : Keyword) (p : Str) (n : Node) (c : Ctx)
    (hK : W1.K1Class (.keyword inv k p) n = false) : (kwStep rt inv k p n c).NoCrash := by
  intro e he
  cases hc : e.isCrash with
  | false => rfl
  | true => rw [(keyword_crash_only_K1 rt inv k p n c e he hc).2] at hK; cases hK

/-- **No crash outcome is reachable** (PARTIAL: the class of C15-K1 is excluded — see the header).
If the matcher raises only YAML Path errors (or out-of-model), and so does the evaluation of
attribute paths, and the path holds no `unique`/`distinct` segment, then whatever
`_get_required_nodes` raises — on any start node, for any such segment list, keyword segments
included — is not a crash. -/
theorem required_errors_are_ypath_partial (hmt : MtSafe mt) (hd : DscSafe dsc) (segs : List ESeg)
    (hK1 : ∀ s ∈ segs, s.grouping = false) (r : Res) (e : Err)
    (h : (required mt dsc rt segs r).2 = some e) : e.isCrash = false :=
  noCrash_required hmt hd segs (fun s hs => W1.kwOk_of_not_grouping rt s (hK1 s hs)) r e h

/-- The same for the queries as the user asks them: `get_nodes(mustexist=True)`, `exists`,
`get_nodes(mustexist=False)` (read behaviour), with attribute paths evaluated by the model itself
(no `unique`/`distinct` segment in the path or in an attribute path). -/
theorem queries_errors_are_ypath_partial (hmt : MtSafe mt) (pa : Str → Except Err (List ESeg))
    (hpa : ∀ a e, pa a = .error e → e.isCrash = false)
    (hpk : ∀ a sg, pa a = .ok sg → ∀ s ∈ sg, s.grouping = false)
    (segs : List ESeg) (hK1 : ∀ s ∈ segs, s.grouping = false) (d : Node) :
    (getRequired mt (Desc.ofParser mt d pa) segs d).NoCrash
    ∧ (∀ e, existsQ mt (Desc.ofParser mt d pa) segs d = .error e → e.isCrash = false)
    ∧ (getOptional mt (Desc.ofParser mt d pa) segs d).NoCrash := by
  have hd : DscSafe (Desc.ofParser mt d pa) :=
    dscSafe_ofParser hmt pa hpa (fun a sg h s hs => W1.kwOk_of_not_grouping d s (hpk a sg h s hs))
  have hk : ∀ s ∈ segs, KwOk d s := fun s hs => W1.kwOk_of_not_grouping d s (hK1 s hs)
  have hreq := noCrash_required hmt hd segs hk (.real (d, Ctx.root))
  refine ⟨?_, ?_, ?_⟩
  · unfold getRequired
    split
    · exact noCrash_nil
    · refine noCrash_append hreq ?_
      split
      · exact noCrash_fail rfl
      · exact noCrash_nil
  · intro e he
    unfold existsQ collapse at he
    split at he
    · cases he
    · cases h2 : (required mt (Desc.ofParser mt d pa) d segs (.real (d, Ctx.root))).2 with
      | none => rw [h2] at he; cases he
      | some e2 => rw [h2] at he; cases he; exact hreq _ h2
  · unfold getOptional
    split
    · exact noCrash_nil
    · exact noCrash_optional hmt hd _ hk _

/-- **With the comparison model as the matcher nothing is assumed about `search_matches`**: for
every regex oracle, every reading of attribute texts that fails only with YAML Path errors, every
document and every path without `unique`/`distinct` segments, the three queries end without a crash
outcome (container haystacks: out of model). -/
theorem queries_errors_are_ypath_compare (rx : Str → Str → Option Bool) (pa : Str → Except Err (List ESeg))
    (hpa : ∀ a e, pa a = .error e → e.isCrash = false)
    (hpk : ∀ a sg, pa a = .ok sg → ∀ s ∈ sg, s.grouping = false)
    (segs : List ESeg) (hK1 : ∀ s ∈ segs, s.grouping = false) (d : Node) :
    (getRequired (W1.mtCompare rx W1.noOracle) (Desc.ofParser (W1.mtCompare rx W1.noOracle) d pa) segs d).NoCrash
    ∧ (∀ e, existsQ (W1.mtCompare rx W1.noOracle) (Desc.ofParser (W1.mtCompare rx W1.noOracle) d pa) segs d = .error e
        → e.isCrash = false)
    ∧ (getOptional (W1.mtCompare rx W1.noOracle) (Desc.ofParser (W1.mtCompare rx W1.noOracle) d pa) segs d).NoCrash :=
  queries_errors_are_ypath_partial (compare_matcher_safe_noOracle rx) pa hpa hpk segs hK1 d

/-! The hypotheses are met by a concrete matcher (string equality on scalars, YAML Path error on
containers), and the theorem then covers a query that raises. -/
def sampleMt : Matcher := fun _ n t =>
  match n with
  | .scalar _ (.str s) => .ok (s == t)
  | .scalar _ _ => .ok false
  | _ => .error (.ypath .generic)

example : MtSafe sampleMt := by
  intro m n t e h
  unfold sampleMt at h
  split at h <;> cases h
  rfl

example : (required sampleMt Desc.none (.scalar none .null) [.index 0] (.real (.set none [.str ['a']], Ctx.root))).2
    = some (.ypath .generic) := by decide +kernel

/-! What the unguarded operations of the pinned code do (each was reproduced on the real code):
`[1][-2]`, `None`-membership, `'a' <= 2`. -/
example : pyGetItem [Node.scalar none (.int 1)] (-2) = .error (.crash .indexError) := by decide +kernel
example : pyGetItem [Node.scalar none (.int 1), Node.scalar none (.int 2)] 8 = .error (.crash .indexError) := by
  decide +kernel
example : pyIn ['a'] (.scalar none .null) = .error (.crash .typeError) := by decide +kernel
example : pyKeyBetween ['a'] ['b'] (.int 2) = .error (.crash .typeError) := by decide +kernel
/-- The guarded handlers on `[1][-2]` and on a slice reaching past the end. -/
example : (required sampleMt Desc.none (.scalar none .null) [.index (-2)] (.real (.seq none [.scalar none (.int 1)], Ctx.root))) = Gen.nil := by
  decide +kernel
example : (required sampleMt Desc.none (.scalar none .null) [.slice ['1'] ['9']]
    (.real (.seq none [.scalar none (.int 1), .scalar none (.int 2)], Ctx.root))).1.length = 1 := by
  decide +kernel

/-! ## C15-K1 (known finding): `[unique()]` over `[a, {b: 1}, a]` raises `TypeError`; the pair is in
`K1Class`; a list of hashable members is outside it. -/
def k1Doc : Node := .seq none [.scalar none (.str ['a']), .map none [(.str ['b'], .scalar none (.int 1))], .scalar none (.str ['a'])]

example : (required sampleMt Desc.none k1Doc [.keyword false .unique []] (.real (k1Doc, Ctx.root))).2
    = some (.crash .typeError) := by decide +kernel
example : (required sampleMt Desc.none k1Doc [.keyword false .distinct []] (.real (k1Doc, Ctx.root))).2
    = some (.crash .typeError) := by decide +kernel
example : W1.K1Class (.keyword false .unique []) k1Doc = true := by decide +kernel
example : W1.K1Class (.keyword false .unique [])
    (.seq none [.scalar none (.str ['a']), .scalar none (.int 1), .scalar none (.str ['a'])]) = false := by decide +kernel
/-- A keyword query inside the theorem: `[1][has_child(b)][parent()]`. -/
example : ∀ s ∈ [ESeg.index 1, .keyword false .hasChild ['b'], .keyword false .parent []], s.grouping = false := by
  decide +kernel
example : (required sampleMt Desc.none k1Doc [.index 1, .keyword false .hasChild ['b'], .keyword false .parent []]
    (.real (k1Doc, Ctx.root))).1.map (fun r => match r with | .real x => x.2.addr | .virt _ => [])
    = [[]] := by decide +kernel
/-- The comparison-model matcher decides a search without any oracle. -/
example : (required (W1.mtCompare C12.noRegex W1.noOracle) Desc.none k1Doc [.search false .equals ['.'] ['a']]
    (.real (.seq none [.scalar none (.str ['a']), .scalar none (.int 1)], Ctx.root))).1.length = 1 := by decide +kernel


/-! ## Collector segments

`W3.requiredM` (`Model/Collector.lean`) evaluates COLLECTOR segments with the document as state.
Collectors add exactly one source of crash outcomes, `_collector_subtraction` applied to a left
operand that holds a HASH (flag `hashSub` of the state = decidable class of C09-F1): there
`lhs.parentref in rhs` raises `TypeError` for a scalar `rhs`, `rhs.items()` raises `AttributeError`
for any `rhs` that is no dict, and `del updated_coords[idx]….node[key]` raises `IndexError` /
`KeyError` / `TypeError` when the recorded `(rem_idx, key)` pairs no longer fit `updated_coords`
(kernel-checked witnesses below, all reproduced on the pinned code).  C15's quantifier limits
collectors to operands selecting scalars, which lies inside `hashSub = false`.
FULL STATEMENT (false for the pinned code): no crash outcome for every collector path. -/
section Collectors
open Ypv.W3
variable {mt : Matcher} {dsc : Node → Desc}

/-- **C15 for collector paths.**  Safe matcher and attribute evaluation, no `unique`/`distinct`
segment at any nesting level (`okDeep`, class of C15-K1): a crash outcome of `_get_required_nodes`
implies that a subtraction collector met a hash on its left — collectors add no crash outcome
beyond that class; the parse of a nested collector text never crashes (C14). -/
theorem collector_crash_only_hashSub (hmt : MtSafe mt) (hd : ∀ rt, DscSafe (dsc rt)) (fuel : Nat) (segs : List ESeg)
    (hok : okDeep fuel segs = true) (r : CRes) (st : St) (e : Err)
    (he : (requiredM mt dsc fuel segs r st).1.2 = some e) (hc : e.isCrash = true) :
    (requiredM mt dsc fuel segs r st).2.hashSub = true :=
  (requiredM_good hmt hd fuel segs hok r st).2 e he hc

/-- … contrapositive: outside the class the evaluation ends with results or a YAML Path error. -/
theorem collector_errors_are_ypath_partial (hmt : MtSafe mt) (hd : ∀ rt, DscSafe (dsc rt)) (fuel : Nat)
    (segs : List ESeg) (hok : okDeep fuel segs = true) (r : CRes) (st : St)
    (hf : (requiredM mt dsc fuel segs r st).2.hashSub = false) :
    (requiredM mt dsc fuel segs r st).1.NoCrash := by
  intro e he
  cases hc : e.isCrash with
  | false => rfl
  | true => rw [collector_crash_only_hashSub hmt hd fuel segs hok r st e he hc] at hf; cases hf

/-- The same for `get_nodes(mustexist=True)` with the matcher of the comparison model and attribute
paths evaluated by the model itself: no hypothesis about `search_matches` left. -/
theorem collector_queries_errors_are_ypath_compare (rx : Str → Str → Option Bool) (pa : Str → Except Err (List ESeg))
    (hpa : ∀ a e, pa a = .error e → e.isCrash = false)
    (hpk : ∀ a sg, pa a = .ok sg → ∀ s ∈ sg, s.grouping = false)
    (fuel : Nat) (segs : List ESeg) (hok : okDeep fuel segs = true) (d : Node)
    (hf : (getRequiredM (W1.mtCompare rx W1.noOracle) (fun rt => Desc.ofParser (W1.mtCompare rx W1.noOracle) rt pa)
      fuel segs d).2.hashSub = false) :
    (getRequiredM (W1.mtCompare rx W1.noOracle) (fun rt => Desc.ofParser (W1.mtCompare rx W1.noOracle) rt pa)
      fuel segs d).1.NoCrash := by
  have hmt := compare_matcher_safe_noOracle rx
  have hd : ∀ rt, DscSafe (Desc.ofParser (W1.mtCompare rx W1.noOracle) rt pa) := fun rt =>
    dscSafe_ofParser hmt pa hpa (fun a sg h s hs => W1.kwOk_of_not_grouping rt s (hpk a sg h s hs))
  unfold getRequiredM at hf ⊢
  split
  · exact noCrash_nil
  · rename_i hnull
    simp only [hnull] at hf
    refine noCrash_append (collector_errors_are_ypath_partial hmt hd fuel segs hok _ _ hf) ?_
    split
    · exact noCrash_fail rfl
    · exact noCrash_nil

/-- What `_collector_subtraction` raises in its comparison loop: only with a hash on the left, and then
`TypeError` / `AttributeError` (or a fenced input). -/
theorem subtraction_loop_outcomes (rem : List RemEl) (lhs : List CRes) :
    (∀ l ∈ lhs, l.unwrap.isMap = false) → ∃ upd, subLoop rem lhs [] [] = .ok (upd, []) :=
  subLoop_noMap rem lhs [] []

end Collectors

/-! Kernel-checked witnesses of the subtraction crash outcomes (each reproduced on the pinned code,
`Processor._collector_subtraction`), all inside the class `hashSub`. -/
def cMt : Matcher := fun _ _ _ => .ok true
def cI (i : Int) : Node := .scalar none (.int i)
def cM (es : List (Str × Node)) : Node := .map none (es.map (fun kv => (Key.str kv.1, kv.2)))
/-- the outcome, the flag, the number of deletions made -/
def cOut (q : Gen W3.CRes × W3.St) : Option Err × Bool × Nat := (q.1.2, q.2.hashSub, q.2.dels.length)
/-- `(a)-(l[0])` over `{a: {x: 1}, l: [5]}`: `'a' in 5` → TypeError -/
example : cOut (W3.queryM cMt (fun _ => Desc.none) "(a)-(l[0])".toList (cM [(['a'], cM [(['x'], cI 1)]), (['l'], .seq none [cI 5])]))
    = (some (.crash .typeError), true, 0) := by decide +kernel
/-- `(a)-(l)` over `{a: {x: 1}, l: ['x']}`: `'x'.items()` → AttributeError -/
example : cOut (W3.queryM cMt (fun _ => Desc.none) "(a)-(l)".toList
      (cM [(['a'], cM [(['x'], cI 1)]), (['l'], .seq none [.scalar none (.str ['x'])])]))
    = (some (.crash .attributeError), true, 0) := by decide +kernel
/-- `(h)-(l.x)` over `{h: {x: 1, y: 2}, l: [{x: 1}, {x: 1}]}`: the pair is recorded twice, the second `del` → KeyError
(after the first one changed the document) -/
example : cOut (W3.queryM cMt (fun _ => Desc.none) "(h)-(l.x)".toList
      (cM [(['h'], cM [(['x'], cI 1), (['y'], cI 2)]), (['l'], .seq none [cM [(['x'], cI 1)], cM [(['x'], cI 1)]])]))
    = (some (.crash .keyError), true, 1) := by decide +kernel
/-- `(a)-(b.*)` over `{a: {x: 1, y: 2}, b: {a: 5, x: 1}}`: `a` is dropped (its key is in `{a: 5}`) but a deletion was
recorded for its slot → IndexError -/
example : cOut (W3.queryM cMt (fun _ => Desc.none) "(a)-(b.*)".toList
      (cM [(['a'], cM [(['x'], cI 1), (['y'], cI 2)]), (['b'], cM [(['a'], cI 5), (['x'], cI 1)])]))
    = (some (.crash .indexError), true, 0) := by decide +kernel
/-- non-vacuity: a collector path with scalar operands is outside the class and `okDeep` holds for it -/
example : W3.okDeep 12 [.collector "a.*".toList .none, .collector "a.x".toList .sub, .index 0] = true := by decide +kernel
example : (W3.getRequiredM cMt (fun _ => Desc.none) 12 [.collector "a.*".toList .none, .collector "a.x".toList .sub, .index 0]
    (cM [(['a'], cM [(['x'], cI 1), (['y'], cI 2)])])).2.hashSub = false := by decide +kernel

end Ypv.C15
