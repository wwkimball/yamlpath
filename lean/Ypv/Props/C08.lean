import Ypv.Lemmas.PathSim
import Ypv.Model.Render
/-!
# C08 — path text and parsed segments round-trip in both notations

`write` (Spec/Write.lean) is the independent writer, `wfSegs` the expressible segment lists,
`parseWith fslash true` the model of `YAMLPath(text).escaped` with the separator given,
`parse true` the same with the separator inferred from the text (`parse_write`, `parse_write_inferred`).
Then the object model `PathObj` of `Model/Render.lean`: `eqModel` for `__eq__` (`eq_iff_segments`,
`eq_written`), `render` / `str` for `__str__` (`render_fixed_point`, `str_fixed_point`), `pop()`
(`pop_of_rendered`, `pop_respelled`) and `append` followed by `pop()` (`append_pop`).
-/
namespace Ypv.C08
open Ypv

/-- **parse_write.**  Every well-formed list of segments of ALL kinds — KEY, INDEX, slice, ANCHOR,
MATCH_ALL, TRAVERSE, SEARCH (nine operators, inversion, attribute and term text, the
regular-expression delimiter chosen by the writer), KEYWORD_SEARCH, COLLECTOR (all operators, any
expression, empty and `&…` included) — of any length, written in dot (`fslash = false`) or forward-slash
notation, parses back to exactly that list.  (Unconditional since /repo 5554362, the repair of
finding C08-6; before it `/()&(b)` lost the `&`.) -/
theorem parse_write (fslash : Bool) (segs : List Seg) (hwf : wfSegs segs = true) :
    parseWith fslash true (write fslash segs) = .ok segs := by
  simpa using Sim.parseWith_write fslash true segs hwf

/-- **The `strip = false` twin (`YAMLPath.unescaped`).**  The unescaped segments of a written
well-formed list are the same segments with their texts as written (`keepEsc`: escapes kept). -/
theorem parse_write_unescaped (fslash : Bool) (segs : List Seg) (hwf : wfSegs segs = true) :
    parseWith fslash false (write fslash segs) =
      .ok (segs.map (keepEsc (if fslash then '/' else '.'))) := by
  simpa using Sim.parseWith_write fslash false segs hwf

theorem normOriginal_idem (t : Str) : normOriginal (normOriginal t) = normOriginal t := by
  unfold normOriginal
  by_cases h : t.all isPyWs = true
  · rw [if_pos h]; rfl
  · rw [if_neg h, if_neg h]

/-- where the separator inferred from the written text is the one written with (`hx`), `parse true` is
`parseWith fslash true` -/
theorem parse_inferred (fslash : Bool) (segs : List Seg) (out : Except PErr (List Seg))
    (hx : fslash = true ∨ dotExpressible segs = true)
    (h : parseWith fslash true (write fslash segs) = out) :
    parse true (write fslash segs) = out := by
  unfold parse
  have : inferFslash (write fslash segs) = fslash := by
    unfold inferFslash normOriginal
    cases fslash with
    | true =>
      have h0 : isPyWs '/' = false := by decide
      simp [write, h0]
    | false =>
      rcases hx with hx | hx
      · cases hx
      · simp only [dotExpressible, ne_eq, decide_eq_true_eq] at hx
        split
        · simp
        · simpa using hx
  rw [this]; exact h

/-- **parse_write with the separator inferred from the text** (`YAMLPath(text).escaped`): the same,
except for dot-notation texts that start with `/` — forward-slash paths by the notation's own
definition (`dotExpressible`). -/
theorem parse_write_inferred (fslash : Bool) (segs : List Seg) (hwf : wfSegs segs = true)
    (hx : fslash = true ∨ dotExpressible segs = true) :
    parse true (write fslash segs) = .ok segs :=
  parse_inferred fslash segs _ hx (parse_write fslash segs hwf)

/-- the basic kinds: KEY, INDEX, slice, ANCHOR, MATCH_ALL, TRAVERSE -/
def isBasic : Seg → Bool
  | (.key, .str _) | (.matchAll, .none) | (.traverse, .none) | (.index, .int _)
  | (.index, .str _) | (.anchor, .str _) => true
  | _ => false

/-- `parse_write` / `parse_write_inferred` for the basic kinds (corollaries) -/
theorem parse_write_basic (fslash : Bool) (segs : List Seg)
    (_hk : ∀ s ∈ segs, isBasic s = true) (hwf : wfSegs segs = true) :
    parseWith fslash true (write fslash segs) = .ok segs := parse_write fslash segs hwf

theorem parse_write_basic_inferred (fslash : Bool) (segs : List Seg)
    (_hk : ∀ s ∈ segs, isBasic s = true) (hwf : wfSegs segs = true)
    (hx : fslash = true ∨ dotExpressible segs = true) :
    parse true (write fslash segs) = .ok segs := parse_write_inferred fslash segs hwf hx

/-- **eq_iff_segments.**  The model of `YAMLPath.__eq__` (after `fixes/C08-3.patch`) answers
`true` exactly when both texts parse and their segment lists are the same. -/
theorem eq_iff_segments (a b : Str) :
    eqModel a b = .ok true ↔ ∃ s, parse true a = .ok s ∧ parse true b = .ok s := by
  have hp : ∀ t, parse true (normOriginal t) = parse true t := by
    intro t
    unfold parse inferFslash parseWith
    rw [normOriginal_idem]
  unfold eqModel
  rw [hp a, hp b]
  cases ha : parse true a <;> cases hb : parse true b <;> simp
  exact eq_comm

/-- …and on written paths: two well-formed lists (all kinds), each written in either notation,
compare equal iff they are the same list. -/
theorem eq_written (f1 f2 : Bool) (s1 s2 : List Seg)
    (w1 : wfSegs s1 = true) (w2 : wfSegs s2 = true)
    (x1 : f1 = true ∨ dotExpressible s1 = true) (x2 : f2 = true ∨ dotExpressible s2 = true) :
    eqModel (write f1 s1) (write f2 s2) = .ok true ↔ s1 = s2 := by
  rw [eq_iff_segments, parse_write_inferred f1 s1 w1 x1, parse_write_inferred f2 s2 w2 x2]
  constructor
  · rintro ⟨s, ha, hb⟩
    cases ha; cases hb; rfl
  · rintro rfl; exact ⟨s1, rfl, rfl⟩

/-- **render_fixed_point.**  Take a well-formed list `segs` (all kinds), write it in notation `f`,
let `u` be what `YAMLPath(text).unescaped` holds (`parse_write_unescaped`), and let `S = render f' u`
be the library's canonical string in notation `f'` (`__str__`, or the string after
`separator = …`).  Then
* `S` re-parses (`escaped`) to exactly `segs`, in either notation `f'`;
* `S` is a fixed point: rendering the unescaped segments of `S` in the same notation gives `S` again. -/
theorem render_fixed_point (f f' : Bool) (segs : List Seg) (hwf : wfSegs segs = true) :
    ∃ u, parseWith f false (write f segs) = .ok u ∧
      parseWith f' true (render f' u) = .ok segs ∧
      ∃ u', parseWith f' false (render f' u) = .ok u' ∧ render f' u' = render f' u := by
  refine ⟨segs.map (keepEsc (Sim.sepOf f)), parse_write_unescaped f segs hwf, ?_⟩
  obtain ⟨h1, _, u', h2, h3⟩ := Sim.render_roundtrip f f' segs hwf
  exact ⟨h1, u', h2, h3⟩

theorem inferSep_of_head {t : Str} (f : Bool) (hne : t ≠ [])
    (h : if f then t.head? = some '/' else t.head? ≠ some '/') :
    inferSep t = (if f then .fslash else .dot) ∧ (normOriginal t = t → inferFslash t = f) := by
  cases t with
  | nil => exact absurd rfl hne
  | cons c r =>
    cases f with
    | true =>
      have hc : c = '/' := by simpa using h
      subst hc
      exact ⟨by simp [inferSep], fun hn => by simp [inferFslash, hn]⟩
    | false =>
      have hc : c ≠ '/' := by simpa using h
      exact ⟨by simp [inferSep, hc], fun hn => by simp [inferFslash, hn, hc]⟩

theorem getSep_inferred (p : PathObj) (h : inferSep p.original = p.sep) : p.getSep = (p.sep, p) := by
  unfold PathObj.getSep
  split
  · rw [h]
  · rfl

/-- `unescaped` on a freshly built path object whose text is in normal form: the separator is inferred
and stored, the segments are cached -/
theorem unescaped_new (t : Str) (hn : normOriginal t = t) (s : SepOpt) (hs : inferSep t = s) (u : List Seg)
    (hu : parseWith s.isFslash false t = .ok u) :
    (PathObj.new t).unescaped = .ok (u, { original := t, sep := s, unesc := u }) := by
  simp only [PathObj.unescaped, PathObj.new, PathObj.setOriginal, PathObj.parseObj, PathObj.getSep, hn, hs]
  simp only [ne_eq, not_true_eq_false, ↓reduceIte, hu]

/-- `str()` of a freshly built path object whose text `t` (not blank, not empty) has the unescaped
segments `u`: the rendering of `u` in the notation inferred from `t` -/
theorem str_new (f : Bool) (t : Str) (u : List Seg) (hn : normOriginal t = t)
    (hs : inferSep t = if f then .fslash else .dot) (hu : parseWith f false t = .ok u) :
    ∃ p, (PathObj.new t).str = .ok (render f u, p) := by
  have hf : (if f then SepOpt.fslash else .dot).isFslash = f := by cases f <;> rfl
  rw [PathObj.str, if_neg (fun h => h rfl), unescaped_new t hn _ hs u (hf.symm ▸ hu)]
  simp only [getSep_inferred { original := t, sep := if f then .fslash else .dot, unesc := u } hs, hf]
  exact ⟨_, rfl⟩

/-- a written non-empty list: its text is not empty and, whatever follows it, the separator inferred
from the text is that of its notation -/
theorem inferSep_write (f : Bool) (segs : List Seg) (hwf : wfSegs segs = true) (hne : segs ≠ [])
    (hx : f = false → dotExpressible segs = true) (x : Str) :
    write f segs ≠ [] ∧ inferSep (write f segs ++ x) = if f then .fslash else .dot := by
  have hwne : write f segs ≠ [] := by
    intro h0
    have := parse_write f segs hwf
    rw [h0, Sim.parseWith_nil] at this
    exact hne (Except.ok.inj this).symm
  have hhead : if f then (write f segs).head? = some '/' else (write f segs).head? ≠ some '/' := by
    cases f
    · simpa [dotExpressible] using hx rfl
    · simp [write]
  refine ⟨hwne, (inferSep_of_head f (by simp [hwne]) ?_).1⟩
  obtain ⟨c, r, hw0⟩ := List.exists_cons_of_ne_nil hwne
  rw [hw0] at hhead ⊢
  exact hhead

/-- the same through the object model: `str(YAMLPath(text))` with the separator inferred from the
text re-parses (separator inferred again) to the written segments and is a fixed point of
`str ∘ YAMLPath`.  In dot notation neither the text nor its rendering may start with `/` (such texts
are forward-slash paths by the notation's own definition). -/
theorem str_fixed_point (f : Bool) (segs : List Seg) (hwf : wfSegs segs = true)
    (hne : segs ≠ [])
    (hx : f = false → dotExpressible segs = true ∧
        (render false (segs.map (keepEsc '.'))).head? ≠ some '/') :
    ∃ S p, (PathObj.new (write f segs)).str = .ok (S, p) ∧ parse true S = .ok segs ∧
      ∃ p', (PathObj.new S).str = .ok (S, p') := by
  have hu : parseWith f false (write f segs) = .ok (segs.map (keepEsc (Sim.sepOf f))) :=
    parse_write_unescaped f segs hwf
  obtain ⟨hp, hSn, u', hu', hfix⟩ := Sim.render_roundtrip f f segs hwf
  have hSne : render f (segs.map (keepEsc (Sim.sepOf f))) ≠ [] := by
    intro h0
    rw [h0, Sim.parseWith_nil] at hp
    exact hne (Except.ok.inj hp).symm
  have hhead2 : if f then (render f (segs.map (keepEsc (Sim.sepOf f)))).head? = some '/'
      else (render f (segs.map (keepEsc (Sim.sepOf f)))).head? ≠ some '/' := by
    cases f
    · simpa [Sim.sepOf] using (hx rfl).2
    · simp [render]
  have hs1 := (inferSep_write f segs hwf hne (fun h => (hx h).1) []).2
  rw [List.append_nil] at hs1
  obtain ⟨hs2, hi2⟩ := inferSep_of_head f hSne hhead2
  obtain ⟨p, hstr1⟩ := str_new f _ _ (Sim.write_nonblank f segs hwf) hs1 hu
  obtain ⟨p', hstr2⟩ := str_new f _ _ hSn hs2 hu'
  refine ⟨_, p, hstr1, ?_, p', ?_⟩
  · unfold parse
    rw [hi2 hSn]; exact hp
  · rw [hfix] at hstr2; exact hstr2

theorem endsWith_append (a b : Str) : endsWith (a ++ b) b = true := by
  simp [endsWith]

/-- what `pop()` returns and the text it leaves -/
def popView (p : PathObj) : Except PErr (Seg × Str) := (p.pop).map (fun x => (x.1, x.2.original))

/-- `pop()` on a freshly built path object, with the object's caches and the inferred separator
worked out: what is left is decided by the three `endswith` tests alone -/
theorem popView_new (o1 : Str) (hn : normOriginal o1 = o1) (s : SepOpt) (hs : inferSep o1 = s)
    (u : List Seg) (last : Seg) (hu : parseWith s.isFslash false o1 = .ok u)
    (hl : u.getLast? = some last) :
    let r := render s.isFslash [last]
    let pref := if s = .fslash then r else s.char :: r
    popView (PathObj.new o1) = .ok (last, normOriginal (
      if endsWith o1 pref then o1.take (o1.length - pref.length)
      else if endsWith o1 r then o1.take (o1.length - r.length)
      else if s = .fslash ∧ endsWith o1 (r.drop 1) then o1.take (o1.length + 1 - r.length)
      else render s.isFslash u.dropLast)) := by
  simp only [popView, PathObj.pop, unescaped_new o1 hn s hs u hu, hl,
    getSep_inferred { original := o1, sep := s, unesc := u } hs,
    apply_ite (Except.map fun x : Seg × PathObj => (x.1, x.2.original)),
    apply_ite normOriginal, apply_ite (Prod.mk last), apply_ite (Except.ok (ε := PErr))]
  -- unfolded by name: `rfl` here would have Lean evaluate the `endsWith` tests
  simp only [Except.map, PathObj.setOriginal]

/-- `pop()` on a lengthened text `o1 = t ++ sep :: seg` returns the last (unescaped) segment `last`
and restores exactly `t` whenever `seg` is the library's own rendering of `last` (`hr`) and `o1` has
the unescaped segments `u` ending in `last`.  (`append_pop` below discharges the hypotheses
for written paths; `append_text` says what `append` does to the text.) -/
theorem pop_of_rendered (t seg : Str) (o1 : Str) (hn : normOriginal o1 = o1) (hnt : normOriginal t = t)
    (ho : o1 = t ++ (inferSep o1).char :: seg)
    (u : List Seg) (last : Seg)
    (hu : parseWith (inferSep o1).isFslash false o1 = .ok u) (hl : u.getLast? = some last)
    (hr : render (inferSep o1).isFslash [last] =
      (if inferSep o1 = .fslash then (inferSep o1).char :: seg else seg)) :
    popView (PathObj.new o1) = .ok (last, t) := by
  refine Eq.trans (popView_new o1 hn _ rfl u last hu hl) ?_
  generalize inferSep o1 = s at ho hr
  have hpref : (if s = .fslash then render s.isFslash [last] else s.char :: render s.isFslash [last])
      = s.char :: seg := by rw [hr]; split <;> rfl
  rw [hpref, ho, endsWith_append, if_pos rfl]
  simp [hnt]

/-- **pop() of a last segment that is not spelled the way it is printed** (repair 8d0a378).  `o1` is ANY
path text (normal form) in notation `f` whose unescaped segments are `u`, ending in `last`.  When the
library's rendering of `last` is not found at the end of the text — the three `endswith` tests of
`pop()` fail: the segment is demarcated (`'d e'`), bracketed (`[&anc]`), padded (`[ 1 ]`, `[a = b]`) —
`pop()` returns `last` and leaves the rendering of the OTHER segments, `render f u.dropLast`.  (Before
the repair the text was left unchanged: the popped segment stayed in the path.) -/
theorem pop_respelled (f : Bool) (o1 : Str) (hn : normOriginal o1 = o1)
    (hs : inferSep o1 = if f then .fslash else .dot)
    (u : List Seg) (last : Seg) (hu : parseWith f false o1 = .ok u) (hl : u.getLast? = some last)
    (h1 : endsWith o1 (if f then render f [last] else '.' :: render f [last]) = false)
    (h2 : endsWith o1 (render f [last]) = false)
    (h3 : f = true → endsWith o1 ((render f [last]).drop 1) = false) :
    popView (PathObj.new o1) = .ok (last, normOriginal (render f u.dropLast)) := by
  cases f with
  | false =>
    simp only [Bool.false_eq_true, ↓reduceIte] at h1
    exact (popView_new o1 hn .dot hs u last hu hl).trans
      (by simp [SepOpt.isFslash, SepOpt.char, h1, h2])
  | true =>
    have h3' := h3 rfl
    rw [List.drop_one] at h3'
    simp only [↓reduceIte] at h1
    exact (popView_new o1 hn .fslash hs u last hu hl).trans
      (by simp [SepOpt.isFslash, h1, h3'])

/-- … and what is left re-parses to exactly the other segments, in either target notation, whenever
those are the unescaped form of a well-formed list `segs` written in notation `f0` (`keepEsc`) — for
instance every canonical prefix, whatever the spelling of the popped segment. -/
theorem pop_respelled_reparses (f0 f : Bool) (segs : List Seg) (hwf : wfSegs segs = true) :
    parseWith f true (render f (segs.map (keepEsc (Sim.sepOf f0)))) = .ok segs :=
  (Sim.render_roundtrip f0 f segs hwf).1

/-- `append` on a non-empty path: the separator of the path's own notation and the segment text
are added to the text (and every cache is dropped). -/
theorem append_text (t seg : Str) (hnt : normOriginal t = t) (ht : t ≠ []) :
    (PathObj.new t).append seg =
      PathObj.new (t ++ (if inferSep t = .dot then '.' else '/') :: seg) := by
  have hl : ¬ t.length < 1 := by
    cases t with
    | nil => exact absurd rfl ht
    | cons c r => simp
  simp [PathObj.append, PathObj.new, PathObj.setOriginal, PathObj.getSep, hnt, hl]

/-- **append_pop.**  For every well-formed list `segs ≠ []` (all kinds) written in either notation
and every further segment `sg` such that `segs ++ [sg]` is well-formed,
`YAMLPath(text).append(canonical text of sg)` followed by `pop()` returns that segment (in its
unescaped form) and leaves exactly the original text.  `segText f sg` is the library's own rendering
of the segment (what the check appends).  Hypotheses, all facts of the notation rather than defects:
`appendable` — `append` puts a separator in front of the text, and by the documented syntax an `&`
right after a separator IS an anchor mark, so the text `&(…)` does not denote an intersection collector
there (collector operators are written directly behind the preceding collector); likewise `&+x`
directly behind a collector reads `+` as a collector operator; `dotExpressible` — a dot text starting
with `/` is a forward-slash path. -/
theorem append_pop (f : Bool) (segs : List Seg) (sg : Seg) (hne : segs ≠ [])
    (hwf : wfSegs (segs ++ [sg]) = true) (happ : appendable (lastIsColl false segs) sg = true)
    (hx : f = false → dotExpressible segs = true) :
    popView ((PathObj.new (write f segs)).append (Sim.segText f sg)) =
      .ok (keepEsc (Sim.sepOf f) sg, write f segs) := by
  have hw : wfSegs segs = true := by
    simp only [wfSegs, Sim.wfFrom_append, Bool.and_eq_true] at hwf
    exact hwf.1
  obtain ⟨hn, hu⟩ := Sim.append_parse f segs sg hne hwf happ
  have hnt := Sim.write_nonblank f segs hw
  have hs2 := fun x => (inferSep_write f segs hw hne hx x).2
  have hs1 := hs2 []
  rw [List.append_nil] at hs1
  rw [append_text _ _ hnt (inferSep_write f segs hw hne hx []).1, hs1]
  have hc : (if (if f then SepOpt.fslash else SepOpt.dot) = SepOpt.dot then '.' else '/')
      = Sim.sepOf f := by cases f <;> rfl
  rw [hc]
  apply pop_of_rendered (write f segs) (Sim.segText f sg) _ hn hnt
    (by rw [hs2]; cases f <;> rfl)
    (segs.map (keepEsc (Sim.sepOf f)) ++ [keepEsc (Sim.sepOf f) sg]) (keepEsc (Sim.sepOf f) sg)
  · rw [hs2]
    cases f <;> exact hu
  · simp
  · rw [hs2]
    cases f <;> simp [render, Sim.segText, Sim.sepOf, SepOpt.isFslash, SepOpt.char]

/-! Witnesses: the hypotheses are met by concrete, non-trivial values. -/

def demo : List Seg :=
  [(.key, .str "a.b/c d".toList), (.index, .int (-12)), (.anchor, .str "x y".toList),
   (.matchAll, .none), (.index, .str "1:-1".toList), (.traverse, .none), (.key, .str "\\'[".toList)]

example : (∀ s ∈ demo, isBasic s = true) ∧ wfSegs demo = true ∧ dotExpressible demo = true := by
  decide +kernel
example : write false demo = "a\\.b/c\\ d[-12][&x\\ y].*[1:-1].**.\\\\\\'\\[".toList := by decide +kernel
example : parse true (write false demo) = .ok demo ∧ parse true (write true demo) = .ok demo := by
  decide +kernel
/-- all kinds on a concrete list: the model parses the written text back -/
def demoAll : List Seg :=
  [(.key, .str "k".toList), (.search, .search true .regex ".".toList "x/y".toList),
   (.search, .search false .ge "a b".toList "1 ]".toList),
   (.keywordSearch, .keyword true .hasChild "a.b)".toList),
   (.collector, .collector "a.b".toList .none), (.collector, .collector "(c)".toList .sub)]
example : wfSegs demoAll = true ∧ parse true (write false demoAll) = .ok demoAll ∧
    parse true (write true demoAll) = .ok demoAll := by decide +kernel
/-- a dot-notation text starting with `/` is read as a forward-slash path -/
example : dotExpressible [(.key, .str "/a".toList)] = false ∧
    parse true (write false [(.key, .str "/a".toList)]) = .ok [(.key, .str "a".toList)] := by
  decide +kernel
/-- `append_pop` is not vacuous: a list with every kind, lengthened by a search segment -/
example : wfSegs (demoAll ++ [(.search, .search false .regex "a.b".toList "x y".toList)]) = true ∧
    appendable (lastIsColl false demoAll) (.search, .search false .regex "a.b".toList "x y".toList) = true ∧
    dotExpressible demoAll = true := by decide +kernel
/-- finding C08-6: an `&` collector operator behind
leading empty collectors keeps its meaning in forward-slash notation, and a collector expression may
start with `&` right after a separator -/
def regress6 : List Seg :=
  [(.collector, .collector [] .none), (.collector, .collector "b".toList .inter)]
example : wfSegs regress6 = true ∧ write true regress6 = "/()&(b)".toList ∧
    parseWith true true "/()&(b)".toList = .ok regress6 ∧
    parseWith false true (write false regress6) = .ok regress6 ∧
    parseWith true true "/(&a)".toList = .ok [(.collector, .collector "&a".toList .none)] ∧
    parseWith false true "x.(&a)".toList =
      .ok [(.key, .str "x".toList), (.collector, .collector "&a".toList .none)] := by decide +kernel
/-- why `appendable` excludes `&(…)`: behind the separator that `append` inserts, `&` is an anchor
mark by the notation, so `(a).&(b)` is two plain collectors and `pop()` leaves `(a).&` -/
example : popView ((PathObj.new "(a)".toList).append "&(b)".toList)
    = .ok ((.collector, .collector "b".toList .none), "(a).&".toList) := by decide +kernel
/-- append then pop on a concrete path (model): the segment comes back and the text is restored -/
example : popView ((PathObj.new "a.b[1]".toList).append "c\\.d".toList)
    = .ok ((.key, .str "c\\.d".toList), "a.b[1]".toList) := by decide +kernel
/-- `pop_respelled` is not vacuous (finding C08-7): a demarcated key, a bracketed anchor, a padded index
and a padded search appended and popped — the segment comes back and the other segments stay; in
forward-slash notation too. -/
example : popView ((PathObj.new "abc.def".toList).append "'d e'".toList)
    = .ok ((.key, .str "d e".toList), "abc.def".toList) := by decide +kernel
example : popView ((PathObj.new "abc.def".toList).append "[&anc]".toList)
    = .ok ((.anchor, .str "anc".toList), "abc.def".toList) := by decide +kernel
example : popView ((PathObj.new "/abc/d\\/e".toList).append "[ 1 ]".toList)
    = .ok ((.index, .int 1), "/abc/d\\/e".toList) := by decide +kernel
example : popView ((PathObj.new "abc.'x y'".toList).append "[a = b]".toList)
    = .ok ((.search, .search false .equals "a".toList "b".toList), "abc.x\\ y".toList) := by decide +kernel
/-- the hypotheses of `pop_respelled` on the first of these -/
example : normOriginal "abc.def.'d e'".toList = "abc.def.'d e'".toList ∧
    inferSep "abc.def.'d e'".toList = .dot ∧
    parseWith false false "abc.def.'d e'".toList =
      .ok [(.key, .str "abc".toList), (.key, .str "def".toList), (.key, .str "d e".toList)] ∧
    endsWith "abc.def.'d e'".toList ('.' :: render false [(.key, .str "d e".toList)]) = false ∧
    endsWith "abc.def.'d e'".toList (render false [(.key, .str "d e".toList)]) = false := by decide +kernel
/-- `eqModel` on `a\.b` against `/a.b`: both have the single key `a.b` -/
example : eqModel "a\\.b".toList "/a.b".toList = .ok true := by decide +kernel

end Ypv.C08
