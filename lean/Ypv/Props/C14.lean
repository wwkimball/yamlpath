import Ypv.Model.Parser
/-!
# C14 — parsing any text as a YAML Path ends in segments or a YAML Path error

`parseWith_total` (separator forced) and `parse_total` (separator inferred): for every text and
escape mode, the outcome of the parser model is either a segment list or an error of the `YAMLPathException` family — the two `crash`
outcomes of the model (the `demarc_stack[-1]` read and the `demarc_stack.pop()` on an empty
stack) are unreachable.  Termination is structural: `run` is a recursion over the characters,
`splatLoop` over the segment text.
-/
namespace Ypv.C14
open Ypv

/-- The loop invariant: regex capture implies a non-empty demarcation stack. -/
def Inv (st : PState) : Prop := st.capturingRegex = true → st.stack ≠ []

/-- What every handler guarantees: the invariant on the state it hands on, and that an
error it raises is not a crash. -/
inductive OutInv : StepOut → Prop
  | cont {st} : Inv st → OutInv (.cont st)
  | fall {st} : Inv st → OutInv (.fall st)
  | err {e} : e.isCrash = false → OutInv (.err e)

/-- The same for the `Except`-valued parts of the loop: no crash, and `p` of the result. -/
def Safe {α : Type} (p : α → Prop) : Except PErr α → Prop
  | .ok a => p a
  | .error e => e.isCrash = false

/-- Case analysis of a goal that matches on a `Safe` computation. -/
@[elab_as_elim]
theorem Safe.cases {α : Type} {p : α → Prop} {motive : Except PErr α → Prop} (x : Except PErr α)
    (hx : Safe p x) (error : ∀ e, e.isCrash = false → motive (.error e))
    (ok : ∀ a, p a → motive (.ok a)) : motive x := by
  cases x with
  | error e => exact error e hx
  | ok a => exact ok a hx

/-- Case split of a goal about an `if` by unification alone (`split` would simplify the whole
handler term once per branch). -/
theorem ite_ok {α : Sort _} {P : α → Prop} {c : Prop} [Decidable c] {a b : α}
    (ha : c → P a) (hb : ¬c → P b) : P (if c then a else b) := by
  by_cases h : c
  · rw [if_pos h]; exact ha h
  · rw [if_neg h]; exact hb h

theorem inv_of_not_capturing {st : PState} (h : st.capturingRegex = false) : Inv st := by
  intro h'; rw [h] at h'; cases h'

/-- Outside regex capture a handler only has to hand on a state that is still outside it; only
`hRegexDelim` sets the flag (`hRegex` clears it), so the hypothesis of the caller closes these goals as
it stands. -/
theorem cont_ok {st : PState} (h : st.capturingRegex = false) : OutInv (.cont st) :=
  .cont (inv_of_not_capturing h)

theorem fall_ok {st : PState} (h : st.capturingRegex = false) : OutInv (.fall st) :=
  .fall (inv_of_not_capturing h)

theorem splatLoop_safe (cs : Str) (w : Bool) (acc : Str) : Safe (fun _ => True) (splatLoop cs w acc) := by
  induction cs generalizing w acc with
  | nil => trivial
  | cons _ rest ih => exact ite_ok (fun _ => ite_ok (fun _ => rfl) fun _ => ih _ _) fun _ => ih _ _

theorem expandSplats_safe (s : Str) (t : SegType) : Safe (fun _ => True) (expandSplats s t) := by
  refine ite_ok (fun _ => trivial) fun _ => ite_ok (fun _ => ?_) fun _ => ite_ok (fun _ => trivial) fun _ => ?_
  · exact ite_ok (fun _ => trivial) fun _ => ite_ok (fun _ => trivial) fun _ =>
      ite_ok (fun _ => trivial) fun _ => trivial
  · exact Safe.cases (splatLoop s false ['^']) (splatLoop_safe s false ['^']) (fun _ he => he)
      fun _ _ => trivial

/-- `flushSeg` raises no crash and leaves the capture flag as it is. -/
theorem flushSeg_safe (st : PState) :
    Safe (fun st' => st'.capturingRegex = st.capturingRegex) (flushSeg st) := by
  refine ite_ok (fun _ => ?_) fun _ => rfl
  exact Safe.cases (expandSplats st.segId (keyType st.segType)) (expandSplats_safe _ _) (fun _ he => he)
    fun _ _ => rfl

theorem pre0_inv (st : PState) (c : Char) (h : Inv st) :
    Inv (pre0 st c) ∧ (pre0 st c).count = (pre0 st c).stack.length :=
  ite_ok (P := fun s : PState => Inv s ∧ s.count = s.stack.length) (fun _ => ⟨h, rfl⟩) fun _ => ⟨h, rfl⟩

theorem hRegex_ok (st : PState) (c : Char) (h : st.stack ≠ []) (hi : Inv st) : OutInv (hRegex st c) := by
  unfold hRegex
  cases hs : st.stack with
  | nil => exact absurd hs h
  | cons top rest => exact ite_ok (fun _ => cont_ok rfl) fun _ => .fall hi

theorem hCloseNested_ok (st : PState) (hc : st.count = st.stack.length)
    (hr : st.capturingRegex = false) : OutInv (hCloseNested st) := by
  refine ite_ok (fun _ => .err rfl) fun hlt => ?_
  cases hs : st.stack with
  | nil => rw [hs] at hc; exact absurd (by rw [hc]; exact Nat.zero_lt_one) hlt
  | cons _ _ => exact fall_ok hr

theorem hQuote_ok (st : PState) (c : Char) (hr : st.capturingRegex = false) : OutInv (hQuote st c) := by
  refine ite_ok (fun _ => ?_) fun _ => cont_ok hr
  refine ite_ok (fun _ => ?_) fun _ => fall_ok hr
  refine ite_ok (fun _ => cont_ok ?_) fun _ => fall_ok hr
  exact ite_ok (P := fun s : PState => s.capturingRegex = false) (fun _ => hr) fun _ => hr

theorem hOpenParen_ok (st : PState) (c : Char) (hr : st.capturingRegex = false) :
    OutInv (hOpenParen st c) := by
  refine ite_ok (fun _ => ?_) fun _ => ?_
  · cases keywordOf? st.segId with
    | some kw => exact cont_ok hr
    | none => exact .err rfl
  · refine Safe.cases (p := fun st' : PState => st'.capturingRegex = st.capturingRegex)
      (if st.collectorLevel = 0 then flushSeg st else .ok st)
      (ite_ok (fun _ => flushSeg_safe st) fun _ => rfl) (fun _ he => .err he) fun st' h => ?_
    exact ite_ok (fun _ => cont_ok (h.trans hr)) fun _ => fall_ok (h.trans hr)

theorem hCloseColl_ok (st : PState) (hr : st.capturingRegex = false) : OutInv (hCloseColl st) :=
  ite_ok (fun _ => cont_ok hr) fun _ => fall_ok hr

theorem hOpenBracket_ok (st : PState) (c : Char) (hr : st.capturingRegex = false) :
    OutInv (hOpenBracket st c) := by
  unfold hOpenBracket
  exact Safe.cases (flushSeg st) (flushSeg_safe st) (fun _ he => .err he) fun _ h => cont_ok (h.trans hr)

theorem hOperator_ok (st : PState) (c : Char) (hr : st.capturingRegex = false) :
    OutInv (hOperator st c) := by
  refine ite_ok (fun _ => ite_ok (fun _ => .err rfl) fun _ => cont_ok hr) fun _ => ?_
  refine ite_ok (fun _ => ?_) fun _ => ?_
  · dsimp only
    split
    · exact cont_ok hr
    · exact cont_ok hr
    · exact cont_ok hr
    · exact ite_ok (fun _ => cont_ok hr) fun _ => .err rfl
    · exact .err rfl
  · refine ite_ok (fun _ => ite_ok (fun _ => cont_ok hr) fun _ => .err rfl) fun _ => ?_
    exact ite_ok (fun _ => .err rfl) fun _ => cont_ok hr

theorem closeSeg_safe (st : PState) : Safe (fun _ => True) (closeSeg st) := by
  refine ite_ok (fun _ => ?_) fun _ => ite_ok (fun _ => trivial) fun _ => ite_ok (fun _ => trivial) fun _ => trivial
  cases pyInt? st.segId with
  | some i => trivial
  | none => rfl

theorem hCloseBracket_ok (st : PState) (hr : st.capturingRegex = false) : OutInv (hCloseBracket st) := by
  unfold hCloseBracket
  exact Safe.cases (closeSeg st) (closeSeg_safe st) (fun _ he => .err he) fun _ _ => cont_ok hr

theorem hSep_ok (st : PState) (hr : st.capturingRegex = false) : OutInv (hSep st) := by
  unfold hSep
  exact Safe.cases (flushSeg st) (flushSeg_safe st) (fun _ he => .err he) fun _ h => cont_ok (h.trans hr)

/-- The dispatcher preserves the invariant and never produces a crash outcome: one line per
branch of `dispatch`, in its order. -/
theorem stepCore_ok (sep : Char) (strip : Bool) (st : PState) (c : Char) (h : Inv st) :
    OutInv (stepCore sep strip st c) := by
  unfold stepCore
  obtain ⟨hi, hc⟩ := pre0_inv st c h
  generalize pre0 st c = s at hi hc
  refine ite_ok (fun _ => .fall hi) fun _ => ?_
  refine ite_ok (fun hcr => hRegex_ok s c (hi hcr) hi) fun hncr => ?_
  have hr : s.capturingRegex = false := Bool.not_eq_true _ ▸ hncr
  refine ite_ok (fun _ => ite_ok (fun _ => cont_ok hr) fun _ => fall_ok hr) fun _ => ?_
  refine ite_ok (fun _ => cont_ok hr) fun _ => ?_
  -- `hRegexDelim` is the one handler that starts the capture: it pushes the delimiter
  refine ite_ok (fun _ => .cont fun _ => List.cons_ne_nil _ _) fun _ => ?_
  refine ite_ok (fun _ => cont_ok hr) fun _ => ?_
  refine ite_ok (fun _ => cont_ok hr) fun _ => ?_
  refine ite_ok (fun _ => .err rfl) fun _ => ?_
  refine ite_ok (fun _ => hQuote_ok s c hr) fun _ => ?_
  refine ite_ok (fun _ => hOpenParen_ok s c hr) fun _ => ?_
  refine ite_ok (fun _ => cont_ok hr) fun _ => ?_
  refine ite_ok (fun _ => hCloseColl_ok s hr) fun _ => ?_
  refine ite_ok (fun _ => hOpenBracket_ok s c hr) fun _ => ?_
  refine ite_ok (fun _ => hOperator_ok s c hr) fun _ => ?_
  refine ite_ok (fun _ => fall_ok hr) fun _ => ?_
  refine ite_ok (fun _ => hCloseBracket_ok s hr) fun _ => ?_
  refine ite_ok (fun _ => hCloseNested_ok s hc hr) fun _ => ?_
  exact ite_ok (fun _ => hSep_ok s hr) fun _ => fall_ok hr

theorem step_ok (sep : Char) (strip : Bool) (st : PState) (c : Char) (h : Inv st) :
    Safe Inv (step sep strip st c) := by
  have := stepCore_ok sep strip st c h
  unfold step
  generalize stepCore sep strip st c = o at this
  cases this with
  | err he => exact he
  | cont hs => exact hs
  | fall hs => exact hs

theorem run_ok (sep : Char) (strip : Bool) (cs : List Char) (st : PState) (hi : Inv st) :
    Safe Inv (run sep strip st cs) := by
  induction cs generalizing st with
  | nil => exact hi
  | cons c cs ih =>
    unfold run
    exact Safe.cases (step sep strip st c) (step_ok sep strip st c hi) (fun _ he => he) fun st' h => ih st' h

theorem finish_safe (st : PState) : Safe (fun _ => True) (finish st) := by
  refine ite_ok (fun _ => rfl) fun _ => ite_ok (fun _ => rfl) fun _ => ite_ok (fun _ => rfl) fun _ =>
    ite_ok (fun _ => ?_) fun _ => trivial
  exact Safe.cases (expandSplats st.segId (keyType st.segType)) (expandSplats_safe _ _) (fun _ he => he)
    fun _ _ => trivial

theorem parseWith_safe (fslash strip : Bool) (t : Str) :
    Safe (fun _ => True) (parseWith fslash strip t) := by
  refine ite_ok (fun _ => trivial) fun _ => ?_
  exact Safe.cases (run _ strip _ (normOriginal t))
    (run_ok _ strip (normOriginal t) _ (inv_of_not_capturing rfl)) (fun _ he => he) fun st _ => finish_safe st

/-- **C14** (explicit separator).  Whatever the text, the forced separator and the escape
mode, the parser model yields segments or a YAML Path error; no crash outcome is reachable. -/
theorem parseWith_total (fslash strip : Bool) (t : Str) :
    (∃ segs, parseWith fslash strip t = .ok segs) ∨
    (∃ code, parseWith fslash strip t = .error (.ypath code)) := by
  have h := parseWith_safe fslash strip t
  generalize parseWith fslash strip t = r at h ⊢
  match r, h with
  | .ok segs, _ => exact .inl ⟨segs, rfl⟩
  | .error (.ypath code), _ => exact .inr ⟨code, rfl⟩

/-- **C14**.  The same with the separator inferred from the text, as `YAMLPath(text)` does. -/
theorem parse_total (strip : Bool) (t : Str) :
    (∃ segs, parse strip t = .ok segs) ∨ (∃ code, parse strip t = .error (.ypath code)) :=
  parseWith_total _ strip t

/-- Non-vacuity / regression witnesses: the texts that crashed the pinned parser are now
YAML Path errors of the model, and a rich path parses. -/
example : parse true "]".toList = .error (.ypath 13) := by decide +kernel
example : parse true "a[1]]".toList = .error (.ypath 13) := by decide +kernel
example : (parse true "a.b[1]".toList) = .ok [(.key, .str ['a']), (.key, .str ['b']), (.index, .int 1)] := by
  decide +kernel

end Ypv.C14
