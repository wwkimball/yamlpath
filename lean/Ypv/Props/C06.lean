import Ypv.Lemmas.Diff
import Ypv.Lemmas.DiffAll
import Ypv.Lemmas.DiffRules
/-!
# C06 — a diff is truthful and complete; it is empty of changes iff the data are equal

The property theorems about the model `Ypv.Diff` (`Model/Diff.lean`) of `yamlpath.differ`.
The definitions the statements use (`clean`, `dataEq`, `msEq`, `Balanced`, `leaves`, `covers`, `wf`,
`keyed`, `Positional`, `NoKeySync`, `keyPairEntries`, `valuePairEntries`) are in `Spec/Diff.lean`;
the proofs are in `Lemmas/Diff.lean`, `Lemmas/DiffAll.lean`, `Lemmas/DiffRules.lean` and are only referred to here.

`s : Bool` is the `strict` flag of the model: `s = false` is the code (`report c l r = diff false c l r`),
`s = true` the variant that reports a null / an empty container at its own path (finding C06-K1).
-/
namespace Ypv.C06
open Ypv Ypv.Diff

/-! ## Truthfulness and completeness under positional comparison -/

/-- **Under positional comparison every entry of a diff is true of the two documents.**
For every entry `e` of the report (`s = false`: the code; also for the strict variant):
a SAME/CHANGE/DELETE entry's left value is what the left document holds at `e.path`,
a SAME/CHANGE/ADD entry's right value is what the right document holds there, SAME values are
equal, CHANGE values differ, an ADD has no left and a DELETE no right value. -/
theorem diff_truthful (s : Bool) (c : Cfg) (hc : Positional c) (l r : Node)
    (hl : wf l = true) (hr : wf r = true) (e : Entry) (he : e ∈ diff s c l r) :
    (e.action ≠ .add → e.lhs.isSome ∧ e.lhs = l.get? e.path)
    ∧ (e.action ≠ .delete → e.rhs.isSome ∧ e.rhs = r.get? e.path)
    ∧ (e.action = .add → e.lhs = none) ∧ (e.action = .delete → e.rhs = none)
    ∧ (e.action = .same → ∃ a b, e.lhs = some a ∧ e.rhs = some b ∧ eqv a b = true)
    ∧ (e.action = .change → ∃ a b, e.lhs = some a ∧ e.rhs = some b ∧ eqv a b = false) :=
  Ypv.Diff.Proofs.diff_truthful s c hc l r hl hr e he

/-- **Under positional comparison every leaf of either document is covered by an entry at its
path or at an ancestor path** — a left leaf by a SAME/CHANGE/DELETE entry, a right leaf by a
SAME/CHANGE/ADD entry — in the strict report. -/
theorem diff_complete_strict (c : Cfg) (hc : Positional c) (l r : Node) (hl : wf l = true) (hr : wf r = true) :
    (∀ a ∈ leaves l, ∃ e ∈ diff true c l r, e.action ≠ .add ∧ covers e.path a)
    ∧ (∀ a ∈ leaves r, ∃ e ∈ diff true c l r, e.action ≠ .delete ∧ covers e.path a) :=
  Ypv.Diff.Proofs.diff_complete_strict c hc l r hl hr

/-- (`_partial`: the class of finding C06-K1 is excluded by the decidable hypothesis `hv`; the full
statement — without `hv` — is false for the code, witness below, and is `diff_complete_strict` for
the strict variant.)
**Completeness of the code's report**, on every pair of documents outside the class of finding
C06-K1 (`report c l r = diff true c l r`, decidable). -/
theorem diff_complete_partial (c : Cfg) (hc : Positional c) (l r : Node) (hl : wf l = true) (hr : wf r = true)
    (hv : report c l r = diff true c l r) :
    (∀ a ∈ leaves l, ∃ e ∈ report c l r, e.action ≠ .add ∧ covers e.path a)
    ∧ (∀ a ∈ leaves r, ∃ e ∈ report c l r, e.action ≠ .delete ∧ covers e.path a) :=
  Ypv.Diff.Proofs.diff_complete_partial c hc l r hl hr hv

/-! ## Clean ⇔ equal as data -/

/-- **The strict report is clean exactly when the two documents are equal as data** (`dataEq`), in
every array mode and the AoH modes `position`, `dpos` and `value`: position by position, or — under
value synchronisation — as multisets of `==`-equal elements (`msEq_iff_balanced`). -/
theorem diff_clean_iff_dataEq_strict (c : Cfg) (hc : NoKeySync c) (l r : Node)
    (hl : wf l = true) (hr : wf r = true) : clean (diff true c l r) = true ↔ dataEq c l r = true :=
  Ypv.Diff.Proofs.diff_clean_iff_dataEq_strict c hc l r hl hr

/- The full statement, for every array mode and AoH mode, is `diff_clean_iff_dataEq_all_partial` below: with
   `idOk` (Spec/Diff.lean, decidable; its negation is the class of finding C06-K2) and `hv` excluding the class
   of finding C06-K1.  The theorems of this section are its instances for the modes without identity-key
   synchronisation (`idOk_of_noKeySync`: `idOk` holds of every pair there). -/

/-- (`_partial`: AoH modes `key`/`deep` not covered; the class of finding C06-K1 is excluded by the
decidable hypothesis `hv`.)  **The report of the code is clean exactly when the documents are
equal as data.** -/
theorem diff_clean_iff_dataEq_partial (c : Cfg) (hc : NoKeySync c) (l r : Node)
    (hl : wf l = true) (hr : wf r = true) (hv : report c l r = diff true c l r) :
    clean (report c l r) = true ↔ dataEq c l r = true :=
  Ypv.Diff.Proofs.diff_clean_iff_dataEq_partial c hc l r hl hr hv

/-- **Documents that are equal under Python `==` give a clean report** in every array mode and the
AoH modes `position`, `dpos`, `value` (for the code and for the strict variant). -/
theorem diff_clean_of_eqv (s : Bool) (c : Cfg) (hc : NoKeySync c) (l r : Node)
    (hl : wf l = true) (hr : wf r = true) (h : eqv r l = true) : clean (diff s c l r) = true :=
  Ypv.Diff.Proofs.diff_clean_of_eqv s c hc l r hl hr h

/-- **Meaning of the value-synchronised comparison of the specification**: the greedy `msEq` succeeds
exactly when the two lists hold the same number of elements of every `==`-class (multiset equality
up to Python `==`). -/
theorem msEq_iff_balanced : ∀ (xs ys : List Node), (∀ x ∈ xs, wf x = true) → (∀ y ∈ ys, wf y = true) →
    (msEq (fun x y => eqv y x) xs ys = true ↔ Balanced xs ys) :=
  Ypv.Diff.Proofs.msEq_iff_balanced

/-- a reordering of a list is equal to it as data under value synchronisation -/
theorem msEq_of_perm (xs ys : List Node) (hwx : ∀ x ∈ xs, wf x = true) (hp : xs.Perm ys) :
    msEq (fun x y => eqv y x) xs ys = true :=
  Ypv.Diff.Proofs.msEq_of_perm xs ys hwx hp

/-- **One list level of `--aoh key`**: when every left record carries the identity key and no two
right records share an identity value, the KEY report of the two record lists is clean exactly when
the lists are equal as multisets of `==`-equal records (the specification's `dataEq` for this mode).
Without the hypotheses the statement fails on the code (finding C06-K2). -/
theorem key_clean_iff_msEq (s : Bool) (c : Cfg) (q : Addr) (ka : Key) : ∀ (xs : List Node) (i : Nat) (rem : List (Nat × Node)),
    (∀ x ∈ xs, wf x = true) → (∀ y ∈ rem, wf y.2 = true) → (∀ x ∈ xs, hasIdentity ka x = true) →
    (rem.map (fun p => p.2)).Pairwise (fun a b => keyMatch ka a b = false) →
    clean (diffKey s c q false ka i xs rem) = msEq (fun x y => eqv x y) xs (rem.map (fun p => p.2)) :=
  Ypv.Diff.Proofs.key_clean_iff_msEq s c q ka

/-- `key_clean_iff_msEq` at the root of two documents that are record lists compared under
`--aoh key`: the report (of the code and of the strict variant) is clean exactly when the two
lists are equal as data. -/
theorem diff_clean_iff_dataEq_key_root (s : Bool) (c : Cfg) (a b : Option Str) (xs ys : List Node)
    (hm : listMode c xs ys = .key) (hl : wf (.seq a xs) = true) (hr : wf (.seq b ys) = true)
    (hid : ∀ x ∈ xs, hasIdentity (keyAttr ys) x = true)
    (hpw : ys.Pairwise (fun u v => keyMatch (keyAttr ys) u v = false)) :
    clean (diff s c (.seq a xs) (.seq b ys)) = dataEq c (.seq a xs) (.seq b ys) :=
  Ypv.Diff.Proofs.diff_clean_iff_dataEq_key_root s c a b xs ys hm hl hr hid hpw

/-! ## A document compared with itself -/

/-- **A document compared with itself shows no difference** — in every array mode and every
Array-of-Hashes mode, for the code as it is (`s = false`) and for the strict variant.
`wf`: mapping keys / set members are distinct (Python guarantees it).  `keyed c l`: under the
identity-key modes (`key`, `deep`) every record of a synchronised list carries the identity key
(no condition in the other modes; without it the code reports the key-less record as deleted and
added: finding C06-K2, witness below). -/
theorem diff_refl (s : Bool) (c : Cfg) (l : Node) (hw : wf l = true) (hk : keyed c l = true) :
    clean (diff s c l l) = true :=
  Ypv.Diff.Proofs.diff_refl s c l hw hk

/-- in the modes without identity keys `keyed` holds for every document -/
theorem keyed_of_no_key_sync (c : Cfg) (h : c.aoh ≠ .key ∧ c.aoh ≠ .deep) : ∀ (l : Node), keyed c l = true :=
  Ypv.Diff.Proofs.keyed_of_no_key_sync c h

/-! ## Accounting of a synchronisation -/

/-- Each left element appears exactly once (in order, with its own index) among the tuples of a
synchronisation, each right element exactly once (the right sides of the tuples are a permutation
of the indexed right list), every tuple is a matched pair for which the matcher holds, a lone left
element, or a lone right element.  Holds for every matcher, hence for
`synchronize_lists_by_value` and `synchronize_lods_by_key`. -/
theorem sync_accounting (m : Node → Node → Bool) (xs ys : List Node) :
    (sync m xs ys).filterMap (fun p => p.l) = enumFrom 0 xs
    ∧ ((sync m xs ys).filterMap (fun p => p.r)).Perm (enumFrom 0 ys)
    ∧ (∀ p ∈ sync m xs ys,
        (∃ a b, p = ⟨some a, some b⟩ ∧ m a.2 b.2 = true) ∨ (∃ a, p = ⟨some a, none⟩) ∨ (∃ b, p = ⟨none, some b⟩)) :=
  Ypv.Diff.Proofs.sync_accounting m xs ys

/-- the indices on the two sides: `0 … len-1`, each once -/
theorem sync_indices (m : Node → Node → Bool) (xs ys : List Node) :
    ((sync m xs ys).filterMap (fun p => p.l)).map (fun a => a.1) = List.range' 0 xs.length
    ∧ (((sync m xs ys).filterMap (fun p => p.r)).map (fun a => a.1)).Perm (List.range' 0 ys.length) :=
  Ypv.Diff.Proofs.sync_indices m xs ys

/-- The KEY/DEEP report of two record lists is, tuple by tuple, what the synchronisation says:
a matched pair is compared (one SAME/CHANGE entry, or the pair's own diff), a lone left record is
one DELETE, a lone right record one ADD.  With `sync_accounting`: every left record is accounted
for exactly once as same/changed/deleted and every right record exactly once as same/changed/added. -/
theorem key_report_follows_sync (s : Bool) (c : Cfg) (p : Addr) (deep : Bool) (ka : Key) :
    ∀ (xs : List Node) (i : Nat) (rem : List (Nat × Node)),
    diffKey s c p deep ka i xs rem = (syncLoop (keyMatch ka) i xs rem).flatMap (keyPairEntries s c p deep) :=
  Ypv.Diff.Proofs.key_report_follows_sync s c p deep ka

/-- The value-synchronised report, before the pending ADDs are merged with DELETEs at the same
path: the entries of the matched and lone left elements follow the tuples of
`synchronize_lists_by_value`, and the elements still to be added are exactly its lone right elements. -/
theorem value_report_follows_sync (s : Bool) (c : Cfg) (p : Addr) :
    ∀ (xs : List Node) (i : Nat) (rem : List (Nat × Node)),
    (diffValue s c p i xs rem).1 = (syncLoop (fun x y => eqv y x) i xs rem).flatMap (valuePairEntries s c p)
    ∧ (diffValue s c p i xs rem).2
        = (syncLoop (fun x y => eqv y x) i xs rem).filterMap (fun q => match q with | ⟨none, some b⟩ => some b | _ => none) :=
  Ypv.Diff.Proofs.value_report_follows_sync s c p

/-! ## Exit status -/

/-- `yaml-diff` exits with 0 exactly when the report has no entry other than SAME
(`print_report`'s `changes_found` flag, `exit_state = 1 if … else 0`). -/
theorem exit_zero_iff_clean (rep : List Entry) : exitStatus rep = 0 ↔ clean rep = true :=
  Ypv.Diff.Proofs.exit_zero_iff_clean rep

/-- (`_partial`: same restrictions as `diff_clean_iff_dataEq_partial`.)  **`yaml-diff` exits with 0
exactly when the two documents are equal as data**. -/
theorem diff_exit_zero_iff_dataEq_partial (c : Cfg) (hc : NoKeySync c) (l r : Node)
    (hl : wf l = true) (hr : wf r = true) (hv : report c l r = diff true c l r) :
    exitStatus (report c l r) = 0 ↔ dataEq c l r = true :=
  Ypv.Diff.Proofs.diff_exit_zero_iff_dataEq_partial c hc l r hl hr hv

/-! ## Document level of the identity-key mode `--aoh key` -/

open Ypv.Diff.KeyDoc in
/-- **`--aoh key` at DOCUMENT level (strict report).**  Array mode `position`, AoH mode `key`
(`KeyPos c`), any two well-formed documents: if at every pair of record lists the comparison reaches —
through mapping entries with the same key and list elements at the same position, to any depth — every
left record carries the identity key and no two right records share an identity value (`idOk c l r`,
decidable, Spec/Diff.lean; its negation is finding C06-K2's class), then the report is clean exactly when
the documents are equal as data: mappings key by key, plain lists position by position, record lists as
multisets of `==`-equal records.  (`key_clean_iff_msEq` threaded through the document recursion.) -/
theorem diff_clean_iff_dataEq_key_strict (c : Cfg) (hc : KeyPos c) (l r : Node)
    (hl : wf l = true) (hr : wf r = true) (hid : idOk c l r = true) :
    clean (diff true c l r) = true ↔ dataEq c l r = true :=
  Ypv.Diff.KeyDoc.diff_clean_iff_dataEq_key_strict c hc l r hl hr hid

open Ypv.Diff.KeyDoc in
/-- (`_partial`: the classes of findings C06-K1 — `hv` — and C06-K2 — `hid` — are excluded by decidable
hypotheses; array mode `position` — `diff_clean_iff_dataEq_all_partial` below covers every array and AoH mode.)
**The report of the code under `--aoh key` is clean exactly when the documents are equal as data.** -/
theorem diff_clean_iff_dataEq_key_partial (c : Cfg) (hc : KeyPos c) (l r : Node)
    (hl : wf l = true) (hr : wf r = true) (hid : idOk c l r = true)
    (hv : report c l r = diff true c l r) :
    clean (report c l r) = true ↔ dataEq c l r = true := by
  rw [hv]; exact Ypv.Diff.KeyDoc.diff_clean_iff_dataEq_key_strict c hc l r hl hr hid

open Ypv.Diff.KeyDoc in
/-- … and `yaml-diff --aoh key` exits with 0 exactly then -/
theorem diff_exit_zero_iff_dataEq_key_partial (c : Cfg) (hc : KeyPos c) (l r : Node)
    (hl : wf l = true) (hr : wf r = true) (hid : idOk c l r = true)
    (hv : report c l r = diff true c l r) :
    exitStatus (report c l r) = 0 ↔ dataEq c l r = true :=
  (Ypv.Diff.Proofs.exit_zero_iff_clean _).trans (diff_clean_iff_dataEq_key_partial c hc l r hl hr hid hv)

/-- `{a: [{id: 1, v: x}, {id: 2}], b: [[{id: 1}]]}` against the same with the records of `a` swapped and
then with `v` changed: the hypotheses hold (nested record lists included), equal / different as data -/
def keyL : Node := .map none
  [(.str ['a'], .seq none [.map none [(.str "id".toList, .scalar none (.int 1)), (.str ['v'], .scalar none (.str ['x']))],
                          .map none [(.str "id".toList, .scalar none (.int 2))]]),
   (.str ['b'], .seq none [.seq none [.map none [(.str "id".toList, .scalar none (.int 1))]]])]
def keyR (v : Char) : Node := .map none
  [(.str ['a'], .seq none [.map none [(.str "id".toList, .scalar none (.int 2))],
                          .map none [(.str "id".toList, .scalar none (.int 1)), (.str ['v'], .scalar none (.str [v]))]]),
   (.str ['b'], .seq none [.seq none [.map none [(.str "id".toList, .scalar none (.int 1))]]])]
example : Ypv.Diff.KeyDoc.KeyPos ⟨.position, .key⟩ ∧ wf keyL = true ∧ wf (keyR 'x') = true ∧
    idOk ⟨.position, .key⟩ keyL (keyR 'x') = true ∧ idOk ⟨.position, .key⟩ keyL (keyR 'y') = true ∧
    report ⟨.position, .key⟩ keyL (keyR 'x') = diff true ⟨.position, .key⟩ keyL (keyR 'x') ∧
    clean (report ⟨.position, .key⟩ keyL (keyR 'x')) = true ∧ dataEq ⟨.position, .key⟩ keyL (keyR 'x') = true ∧
    clean (report ⟨.position, .key⟩ keyL (keyR 'y')) = false ∧ dataEq ⟨.position, .key⟩ keyL (keyR 'y') = false := by
  decide +kernel
/-- finding C06-K2 below a mapping key: `{a: [{x: 1}, {y: 2}]}` against itself — `idOk` fails (the
second record has no identity key `x`), the report is not clean although the documents are equal -/
example :
    let d : Node := .map none [(.str ['a'], .seq none [.map none [(.str ['x'], .scalar none (.int 1))],
                                                       .map none [(.str ['y'], .scalar none (.int 2))]])]
    idOk ⟨.position, .key⟩ d d = false ∧ clean (report ⟨.position, .key⟩ d d) = false ∧
      dataEq ⟨.position, .key⟩ d d = true := by decide +kernel

/-! ## Every array mode × every AoH mode (`--aoh key` with `--arrays value`, `--aoh deep`) -/

/-- **Clean ⇔ equal as data, every array mode × every AoH mode (strict report).**  Any two well-formed
documents, any `c`: if `idOk c l r` — at every pair of lists the comparison can reach (mapping entries with
the same key, list elements at the same position, under value synchronisation every pair of `==`-equal
elements, under `deep` every pair of records with equal identity values; to any depth) that is synchronised
by identity key, every left record carries the identity key (under `deep`: with a scalar identity value) and
no two right records share an identity value (decidable, Spec/Diff.lean; its negation is finding C06-K2's
class) — then the report is clean exactly when the documents are equal as data (`dataEq`): mappings key by
key, sets member by member, lists position by position / as multisets of `==`-equal elements (value, key) /
as multisets of records that are again equal as data (`deep`, the recursive `dataEqMs`).
Proof (`Lemmas/DiffAll.lean`): `keysync_clean_iff` — the lockstep induction over `synchronize_lods_by_key`
for a pair relation that implies "same identity value" (`keyMatch_of_dataEq`), the pair's own diff in place
of the whole-record comparison; `dataEq_of_eqv_node` — `==`-equal documents are equal as data in every mode,
so that the second comparison of a value-matched pair is clean. -/
theorem diff_clean_iff_dataEq_all_strict (c : Cfg) (l r : Node)
    (hl : wf l = true) (hr : wf r = true) (hid : idOk c l r = true) :
    clean (diff true c l r) = true ↔ dataEq c l r = true :=
  Ypv.Diff.AllModes.diff_clean_iff_dataEq_all_strict c l r hl hr hid

/-- (`_partial`: the classes of findings C06-K1 — `hv` — and C06-K2 — `hid` — are excluded by decidable
hypotheses; nothing else is.)  **The report of the code is clean exactly when the documents are equal as
data — every array mode, every AoH mode.** -/
theorem diff_clean_iff_dataEq_all_partial (c : Cfg) (l r : Node)
    (hl : wf l = true) (hr : wf r = true) (hid : idOk c l r = true)
    (hv : report c l r = diff true c l r) :
    clean (report c l r) = true ↔ dataEq c l r = true := by
  rw [hv]; exact Ypv.Diff.AllModes.diff_clean_iff_dataEq_all_strict c l r hl hr hid

/-- … and `yaml-diff` exits with 0 exactly then -/
theorem diff_exit_zero_iff_dataEq_all_partial (c : Cfg) (l r : Node)
    (hl : wf l = true) (hr : wf r = true) (hid : idOk c l r = true)
    (hv : report c l r = diff true c l r) :
    exitStatus (report c l r) = 0 ↔ dataEq c l r = true :=
  (Ypv.Diff.Proofs.exit_zero_iff_clean _).trans (diff_clean_iff_dataEq_all_partial c l r hl hr hid hv)

/-- `idOk` is no condition in the modes without identity-key synchronisation (so the `_all_` theorems above
contain `diff_clean_iff_dataEq_strict` / `_partial`) -/
theorem idOk_of_noKeySync (c : Cfg) (hc : NoKeySync c) (l r : Node) : idOk c l r = true :=
  Ypv.Diff.AllModes.idOk_of_noKeySync c hc l r

/-- **Documents equal under Python `==` are equal as data** in every mode (under `idOk`) -/
theorem dataEq_of_eqv (c : Cfg) (l r : Node) (hl : wf l = true) (hr : wf r = true)
    (h : eqv r l = true) (hid : idOk c l r = true) : dataEq c l r = true :=
  Ypv.Diff.AllModes.dataEq_of_eqv_node c l r hl hr h hid

/-- `--aoh deep --arrays value`: `[{id: 1, items: [{id: a, v: 1}, {id: b, v: 2}], tags: [x, y]}, {id: 2}]`
against the same with the records swapped at both levels and the tags reordered (`v` of record `b` = `w`) -/
def deepL : Node := .seq none
  [.map none [(.str "id".toList, .scalar none (.int 1)),
              (.str "items".toList, .seq none [.map none [(.str "id".toList, .scalar none (.str ['a'])), (.str ['v'], .scalar none (.int 1))],
                                               .map none [(.str "id".toList, .scalar none (.str ['b'])), (.str ['v'], .scalar none (.int 2))]]),
              (.str "tags".toList, .seq none [.scalar none (.str ['x']), .scalar none (.str ['y'])])],
   .map none [(.str "id".toList, .scalar none (.int 2))]]
def deepR (w : Int) : Node := .seq none
  [.map none [(.str "id".toList, .scalar none (.int 2))],
   .map none [(.str "id".toList, .scalar none (.int 1)),
              (.str "items".toList, .seq none [.map none [(.str "id".toList, .scalar none (.str ['b'])), (.str ['v'], .scalar none (.int w))],
                                               .map none [(.str "id".toList, .scalar none (.str ['a'])), (.str ['v'], .scalar none (.int 1))]]),
              (.str "tags".toList, .seq none [.scalar none (.str ['y']), .scalar none (.str ['x'])])]]
example : wf deepL = true ∧ wf (deepR 2) = true ∧
    idOk ⟨.value, .deep⟩ deepL (deepR 2) = true ∧ idOk ⟨.value, .deep⟩ deepL (deepR 3) = true ∧
    report ⟨.value, .deep⟩ deepL (deepR 2) = diff true ⟨.value, .deep⟩ deepL (deepR 2) ∧
    clean (report ⟨.value, .deep⟩ deepL (deepR 2)) = true ∧ dataEq ⟨.value, .deep⟩ deepL (deepR 2) = true ∧
    eqv (deepR 2) deepL = false ∧
    clean (report ⟨.value, .deep⟩ deepL (deepR 3)) = false ∧ dataEq ⟨.value, .deep⟩ deepL (deepR 3) = false := by
  decide +kernel
/-- `--aoh key --arrays value`: `[[{id: 1}, {id: 2}], 7]` against `[7, [{id: 1}, {id: 2}]]` — the value-matched
inner record lists are compared again by identity key; hypotheses met, clean and equal as data -/
example :
    let l : Node := .seq none [.seq none [.map none [(.str "id".toList, .scalar none (.int 1))],
                                          .map none [(.str "id".toList, .scalar none (.int 2))]], .scalar none (.int 7)]
    let r : Node := .seq none [.scalar none (.int 7),
                               .seq none [.map none [(.str "id".toList, .scalar none (.int 1))],
                                          .map none [(.str "id".toList, .scalar none (.int 2))]]]
    idOk ⟨.value, .key⟩ l r = true ∧ report ⟨.value, .key⟩ l r = diff true ⟨.value, .key⟩ l r ∧
      clean (report ⟨.value, .key⟩ l r) = true ∧ dataEq ⟨.value, .key⟩ l r = true := by decide +kernel
/-- finding C06-K2 inside a value-matched pair: `[[{x: 1}, {y: 2}]]` against itself under
`--aoh key --arrays value` — `idOk` fails, the report is not clean although the documents are equal -/
example :
    let d : Node := .seq none [.seq none [.map none [(.str ['x'], .scalar none (.int 1))],
                                          .map none [(.str ['y'], .scalar none (.int 2))]]]
    idOk ⟨.value, .key⟩ d d = false ∧ clean (report ⟨.value, .key⟩ d d) = false ∧
      dataEq ⟨.value, .key⟩ d d = true := by decide +kernel
/-- finding C06-K2 under `--aoh deep`: a container identity value — `[{id: [1, 2]}]` against `[{id: [2, 1]}]`
with `--arrays value` is equal as data, the identity values are not `==`: DELETE + ADD; `idOk` fails.
Likewise two right records sharing an identity value. -/
example :
    let l : Node := .seq none [.map none [(.str "id".toList, .seq none [.scalar none (.int 1), .scalar none (.int 2)])]]
    let r : Node := .seq none [.map none [(.str "id".toList, .seq none [.scalar none (.int 2), .scalar none (.int 1)])]]
    let d : Node := .seq none [.map none [(.str "id".toList, .scalar none (.int 1))], .map none [(.str "id".toList, .scalar none (.int 1))]]
    idOk ⟨.value, .deep⟩ l r = false ∧ clean (report ⟨.value, .deep⟩ l r) = false ∧ dataEq ⟨.value, .deep⟩ l r = true ∧
      idOk ⟨.position, .deep⟩ d d = false := by decide +kernel

/-! ## Per-path comparison modes: the `[rules]` / `[keys]` sections of the configuration file

`Model/DiffRules.lean` (namespace `Ypv.Diff.Rules`): the comparers with the coordinate (node, parent, parentref) of
the right-hand node threaded through, `_get_config_for`, `array_diff_mode` / `aoh_diff_mode` / `aoh_diff_key` with the
precedence `[rules]` > command line > `[defaults]` > POSITION; `Rules.report glob rules keys l r` takes the addresses
of the nodes of `r` that `DifferConfig.prepare` matched.  Outcome: a report or a `Crash`. -/

/-- **`_get_config_for` returns the text of the FIRST stored entry whose node, parent and parentref are `==`
(Python equality, not identity) to those of the node asked about** — `""` when there is none. -/
theorem get_config_for_first_match (es : List Rules.RuleEntry) (q : Rules.Coord) :
    Rules.getConfigFor es q = match es.find? (fun e => Rules.coordMatch e.nc q) with
      | some e => e.text
      | none => [] :=
  Rules.getConfigFor_eq_find es q

/-- **Without a configuration file the per-path model is the model of the global modes**: same report, no crash —
for every document pair, both `strict` values, every array × AoH mode.  (So every theorem above is a theorem
about `Rules.diff` at `PCfg.plain c`.) -/
theorem rules_plain_is_global (s : Bool) (c : Cfg) (l r : Node) :
    Rules.diff s (Rules.PCfg.plain c) l r = .ok (diff s c l r) :=
  Rules.plain_node s c l r [] none none

/-- **`diff_truthful` under per-path modes.**  Any configuration `pc` (global modes, `[rules]`, `[keys]` entries as
`DifferConfig.prepare` stores them), any two well-formed documents: if every pair of lists the comparison reaches —
through mapping entries with the same key and list elements at the same position — resolves to a positional
comparison under `pc` (`Rules.posReach`, decidable, Spec/DiffRules.lean: the `[rules]` entry found the way
`_get_config_for` finds it, else the command line, else `[defaults]`, else POSITION; no mode text that makes
`from_str` raise), then `compare_to` returns a report and every entry of it is true of the two documents: a
SAME/CHANGE/DELETE entry's left value is what the left document holds at `e.path`, a SAME/CHANGE/ADD entry's right
value is what the right document holds there, SAME values are equal, CHANGE values differ, an ADD has no left and a
DELETE no right value.  Contains `diff_truthful` (`posReach_plain` + `rules_plain_is_global`); a `[rules]` entry
`position` restores truthfulness for its list under `--arrays value` (witness below); where an entry is captured
by an equal list elsewhere (finding C06-K3) `posReach` fails and so does truthfulness (witness below). -/
theorem diff_truthful_rules (s : Bool) (pc : Rules.PCfg) (l r : Node)
    (hl : wf l = true) (hr : wf r = true) (hp : Rules.posReach pc none none l r = true) :
    ∃ rep, Rules.diff s pc l r = .ok rep ∧ ∀ e ∈ rep,
      (e.action ≠ .add → e.lhs.isSome ∧ e.lhs = l.get? e.path)
      ∧ (e.action ≠ .delete → e.rhs.isSome ∧ e.rhs = r.get? e.path)
      ∧ (e.action = .add → e.lhs = none) ∧ (e.action = .delete → e.rhs = none)
      ∧ (e.action = .same → ∃ a b, e.lhs = some a ∧ e.rhs = some b ∧ eqv a b = true)
      ∧ (e.action = .change → ∃ a b, e.lhs = some a ∧ e.rhs = some b ∧ eqv a b = false) := by
  obtain ⟨rep, h1, h2⟩ := Rules.truthful_node s pc l r [] none none hl hr hp
  exact ⟨rep, h1, fun e he => (h2 e he).truthful⟩

/-- with no `[rules]` the hypothesis of `diff_truthful_rules` follows from `Positional` of the global modes -/
theorem posReach_plain (c : Cfg) (hc : Positional c) (l r : Node) :
    Rules.posReach (Rules.PCfg.plain c) none none l r = true :=
  Rules.posReach_plain c hc l r none none

/-- `{a: [1, 2]}` against `{a: [2, 1]}` with `--arrays value` and the rule `/a = position`: the hypothesis holds and
the list is compared by position (two CHANGE entries); without the rule it is synchronised by value (clean) -/
example :
    let l : Node := .map none [(.str ['a'], .seq none [.scalar none (.int 1), .scalar none (.int 2)])]
    let r : Node := .map none [(.str ['a'], .seq none [.scalar none (.int 2), .scalar none (.int 1)])]
    let pc := Rules.prepare ⟨.value, .position⟩ r [([.key (.str ['a'])], "position".toList)] []
    Rules.posReach pc none none l r = true ∧
    Rules.diff false pc l r = .ok [⟨.change, [.key (.str ['a']), .idx 0], some (.scalar none (.int 1)), some (.scalar none (.int 2))⟩,
                                   ⟨.change, [.key (.str ['a']), .idx 1], some (.scalar none (.int 2)), some (.scalar none (.int 1))⟩] ∧
    Rules.posReach (Rules.PCfg.plain ⟨.value, .position⟩) none none l r = false ∧
    clean (report ⟨.value, .position⟩ l r) = true := by decide +kernel

/-- finding C06-K3 on the model: rule `/a/p = value`, right document `{a: {p: [1, 2]}, b: [{p: [1, 2]}]}`, left
`b[0].p = [2, 1]`, `--aoh dpos`.  The entry stored for `a.p` is found for `b[0].p` too (equal list, equal parent, same
key): that list is synchronised by value, `posReach` fails, and the report says `SAME b[0].p[0] 2 2` although the
right document holds `1` there. -/
example :
    let p12 : Node := .seq none [.scalar none (.int 1), .scalar none (.int 2)]
    let p21 : Node := .seq none [.scalar none (.int 2), .scalar none (.int 1)]
    let l : Node := .map none [(.str ['a'], .map none [(.str ['p'], p12)]), (.str ['b'], .seq none [.map none [(.str ['p'], p21)]])]
    let r : Node := .map none [(.str ['a'], .map none [(.str ['p'], p12)]), (.str ['b'], .seq none [.map none [(.str ['p'], p12)]])]
    let pc := Rules.prepare ⟨.position, .dpos⟩ r [([.key (.str ['a']), .key (.str ['p'])], "value".toList)] []
    let bp0 : Addr := [.key (.str ['b']), .idx 0, .key (.str ['p']), .idx 0]
    Rules.getConfigFor pc.rules ⟨p12, some (.map none [(.str ['p'], p12)]), some (.str ['p'])⟩ = "value".toList ∧
    Rules.posReach pc none none l r = false ∧
    (match Rules.diff false pc l r with
     | .ok rep => rep.any (fun e => e == ⟨.same, bp0, some (.scalar none (.int 2)), some (.scalar none (.int 2))⟩)
     | .error _ => false) = true ∧
    r.get? bp0 = some (.scalar none (.int 1)) := by decide +kernel

/-- findings C06-K4 / C06-K5 on the model: the rule `dpos` for a record list dies in `ArrayDiffOpts.from_str`
(`NameError`); a `[keys]` entry `n` for the single record `a[1]` dies in `lhs_ele[use_key]` (`KeyError`) when the
left record has the inferred identity key `id` but no `n` -/
example :
    let rec1 : Node := .map none [(.str "id".toList, .scalar none (.int 1))]
    let rec2 : Node := .map none [(.str "id".toList, .scalar none (.int 2))]
    let rec2n : Node := .map none [(.str "id".toList, .scalar none (.int 2)), (.str ['n'], .scalar none (.str ['x']))]
    let l : Node := .map none [(.str ['a'], .seq none [rec1, rec2])]
    let r : Node := .map none [(.str ['a'], .seq none [rec1, rec2n])]
    Rules.report ⟨.position, .position⟩ [([.key (.str ['a'])], "dpos".toList)] [] l l = .error .nameError ∧
    Rules.report ⟨.position, .key⟩ [] [([.key (.str ['a']), .idx 1], ['n'])] l r = .error .keyError := by decide +kernel

/-! ## Witnesses: the hypotheses are met by non-trivial values; the findings on the model -/

example : Positional ⟨.position, .position⟩ ∧ Positional ⟨.position, .dpos⟩ ∧ NoKeySync ⟨.value, .value⟩ := by decide

example : exitStatus (report ⟨.position, .position⟩ (.seq none [.scalar none (.int 1)]) (.seq none [])) = 1 := by
  decide +kernel

example : syncByValue [.scalar none (.int 1), .scalar none (.int 2), .scalar none (.int 3)]
    [.scalar none (.int 3), .scalar none (.int 1), .scalar none (.int 4)]
    = [⟨some (0, .scalar none (.int 1)), some (1, .scalar none (.int 1))⟩,
       ⟨some (1, .scalar none (.int 2)), none⟩,
       ⟨some (2, .scalar none (.int 3)), some (0, .scalar none (.int 3))⟩,
       ⟨none, some (2, .scalar none (.int 4))⟩] := by decide +kernel

/-- `[a, null]` compared with itself is clean (model of the repaired code) -/
example : report ⟨.position, .position⟩ (.seq none [.scalar none (.str ['a']), .scalar none .null])
      (.seq none [.scalar none (.str ['a']), .scalar none .null])
    = [⟨.same, [.idx 0], some (.scalar none (.str ['a'])), some (.scalar none (.str ['a']))⟩,
       ⟨.same, [.idx 1], some (.scalar none .null), some (.scalar none .null)⟩] := by decide +kernel

/-- `[1, 2]` against `[]` deletes both elements -/
example : report ⟨.position, .position⟩ (.seq none [.scalar none (.int 1), .scalar none (.int 2)]) (.seq none [])
    = [mkDel [.idx 0] (.scalar none (.int 1)), mkDel [.idx 1] (.scalar none (.int 2))] := by decide +kernel

/-- value synchronisation: `[1, 2, 2]` and `[2, 1, 2]` are equal as data, `[1, 2, 2]` and `[1, 1, 2]` are not -/
example : dataEq ⟨.value, .position⟩ (.seq none [.scalar none (.int 1), .scalar none (.int 2), .scalar none (.int 2)])
      (.seq none [.scalar none (.int 2), .scalar none (.int 1), .scalar none (.int 2)]) = true
    ∧ dataEq ⟨.value, .position⟩ (.seq none [.scalar none (.int 1), .scalar none (.int 2), .scalar none (.int 2)])
      (.seq none [.scalar none (.int 1), .scalar none (.int 1), .scalar none (.int 2)]) = false := by
  decide +kernel

/-- finding C06-K1 on the model: `{}` against `[]` gives an empty (hence clean) report although the
data differ, and the hypothesis `report c l r = diff true c l r` of the `…_partial` theorems fails -/
example : clean (report ⟨.position, .position⟩ (.map none []) (.seq none [])) = true
    ∧ dataEq ⟨.position, .position⟩ (.map none []) (.seq none []) = false
    ∧ report ⟨.position, .position⟩ (.map none []) (.seq none []) ≠ diff true ⟨.position, .position⟩ (.map none []) (.seq none []) := by
  decide +kernel

/-- finding C06-K1 on the model: `null` against `[1]` — the left leaf (the root) has no entry -/
example : report ⟨.position, .position⟩ (.scalar none .null) (.seq none [.scalar none (.int 1)])
    = [mkAdd [.idx 0] (.scalar none (.int 1))] := by decide +kernel

/-- the hypothesis `report c l r = diff true c l r` is met by documents with nulls and empty containers -/
example : report ⟨.position, .position⟩ (.seq none [.scalar none .null, .seq none []]) (.seq none [.scalar none .null, .seq none [], .map none []])
    = diff true ⟨.position, .position⟩ (.seq none [.scalar none .null, .seq none []]) (.seq none [.scalar none .null, .seq none [], .map none []]) := by
  decide +kernel

/-- finding C06-K2 on the model: `[{a: 1}, {b: 2}]` compared with itself under `--aoh key` is not
clean; `keyed` (the hypothesis of `diff_refl`) fails for it and holds for `[{a: 1}, {a: 2}]` -/
example : clean (report ⟨.position, .key⟩
      (.seq none [.map none [(.str ['a'], .scalar none (.int 1))], .map none [(.str ['b'], .scalar none (.int 2))]])
      (.seq none [.map none [(.str ['a'], .scalar none (.int 1))], .map none [(.str ['b'], .scalar none (.int 2))]])) = false
    ∧ keyed ⟨.position, .key⟩
      (.seq none [.map none [(.str ['a'], .scalar none (.int 1))], .map none [(.str ['b'], .scalar none (.int 2))]]) = false
    ∧ keyed ⟨.position, .key⟩
      (.seq none [.map none [(.str ['a'], .scalar none (.int 1))], .map none [(.str ['a'], .scalar none (.int 2))]]) = true := by
  decide +kernel

/-- the hypotheses of `diff_clean_iff_dataEq_key_root` on `[{a: 1, b: x}, {a: 2}]` vs `[{a: 2}, {a: 1, b: y}]` -/
example :
    let xs := [Node.map none [(.str ['a'], .scalar none (.int 1)), (.str ['b'], .scalar none (.str ['x']))],
               Node.map none [(.str ['a'], .scalar none (.int 2))]]
    let ys := [Node.map none [(.str ['a'], .scalar none (.int 2))],
               Node.map none [(.str ['a'], .scalar none (.int 1)), (.str ['b'], .scalar none (.str ['y']))]]
    listMode ⟨.position, .key⟩ xs ys = .key ∧ xs.all (hasIdentity (keyAttr ys)) = true
      ∧ keyMatch (keyAttr ys) ys[0]! ys[1]! = false
      ∧ clean (report ⟨.position, .key⟩ (.seq none xs) (.seq none ys)) = false
      ∧ dataEq ⟨.position, .key⟩ (.seq none xs) (.seq none ys) = false := by
  decide +kernel

end Ypv.C06
