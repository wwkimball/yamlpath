import Ypv.Lemmas.Keyword
/-!
# C13 — search keywords select by their definitions

The model is `kwSearch` (`Model/Keyword.lean`, a branch-for-branch mirror of `KeywordSearches`
after `fixes/C13-1.patch` and `fixes/C13-2.patch`).  Specifications are written here from the
property statement.

* `max_eq_spec` / `min_eq_spec` — on any collection whose comparable member values are ordered by a
  total, transitive `le` that the loop's two comparisons decide (`ScanOrder`), `max`/`min` return
  exactly the members whose value is `≥` (`≤`) every comparable member's, in document order, and
  inverted exactly the other members (a permutation of them); proved with the best-so-far
  invariant (`Lemmas/Keyword.lean`) for lists of any length.  `scanOrder_ints_max`,
  `scanOrder_ints_min`: lists of ints satisfy the
  hypothesis; `members_of_list`: the members of a plain list are its positions, nulls not comparable.
* `has_child_map_eq_spec`, `has_child_aoh_eq_spec` — exactly the hashes having (inverted: lacking)
  the key.
* `parent_eq_spec`, `parent_default_eq_spec`, `parent_zero_eq_spec`, `parent_refuses_above_root` —
  `parent(n)` is the address with `n` references dropped; more levels than the depth is refused.
* `name_eq_spec` — the last reference of the address.
* `scanOrder_same_kind_max/min`, `max_same_kind_eq_spec`, `min_same_kind_eq_spec` — the order
  hypothesis is discharged for every same-kind collection (ints, floats, Booleans, non-literal text).
* `members_of_aoh`, `members_of_map` — the members of an Array-of-Hashes / hash of hashes.
* `unique_eq_spec`, `distinct_eq_spec` — `unique` = the members whose value occurs once (inverted:
  more than once), `distinct` = the first member of each group of equal values, for lists,
  Arrays-of-Hashes and hashes of hashes of any length (`groups_eq_spec`: the table the code builds;
  `groups_of_list`: a list of scalars is always grouped); `unique_distinct_non_complex`.
-/
namespace Ypv.C13
open Ypv

/-! ## max / min -/

/-- `c`'s value is at least every comparable member's. -/
def isExtreme (le : Scalar → Scalar → Bool) (cs : List Cand) (c : Cand) : Bool :=
  match c.2 with
  | some x => (candVals cs).all (fun y => le y x)
  | none => false

/-- The members whose value is greatest (w.r.t. `le`), in document order. -/
def Spec.extremes (le : Scalar → Scalar → Bool) (cs : List Cand) : List Addr :=
  (cs.filter (isExtreme le cs)).map (·.1)

/-- All other members, in document order. -/
def Spec.others (le : Scalar → Scalar → Bool) (cs : List Cand) : List Addr :=
  (cs.filter (fun c => !isExtreme le cs c)).map (·.1)

theorem scan_eq_spec (better : Method) (le : Scalar → Scalar → Bool) (cs : List Cand)
    (ho : ScanOrder better le (candVals cs)) :
    ∃ st, mmScan better { best := none, hits := [], discards := [] } cs = .ok st ∧
      st.hits = Spec.extremes le cs ∧ List.Perm st.discards (Spec.others le cs) := by
  obtain ⟨st, hs, hi⟩ := mmScan_inv cs [] { best := none, hits := [], discards := [] } ho
    ⟨fun _ h => (nomatch h), fun _ h => (nomatch h), rfl, .refl _⟩
  replace hi : ScanInv le cs st := hi
  refine ⟨st, hs, ?_⟩
  -- as good as the final best value = at least every comparable value
  have hg : ∀ c ∈ cs, good le st.best c = isExtreme le cs c := fun c hc => by
    cases hv : c.2 with
    | none => rw [good_none hv, isExtreme, hv]
    | some x =>
      obtain ⟨b, hb, _⟩ := hi.max x (mem_candVals hc hv)
      rw [hb, good_some hv, isExtreme, hv, Bool.eq_iff_iff, List.all_eq_true]
      refine ⟨fun hbx y hy => ?_, fun h => h b (hi.mem b hb)⟩
      obtain ⟨b', hb', hyb⟩ := hi.max y hy
      rw [hb] at hb'; cases hb'
      exact ho.trans y hy b (hi.mem b hb) x (mem_candVals hc hv) hyb hbx
  unfold Spec.extremes Spec.others
  rw [← List.filter_congr hg, ← List.filter_congr fun c hc => congrArg not (hg c hc)]
  exact ⟨hi.hits, hi.discards⟩

/-- **C13 max/min** (general form).  If `data` is a collection whose members are `cs`
(`mmCands`) and the comparable values are ordered by `le` as the loop's comparisons decide, then
the keyword returns exactly the extreme members in document order and, inverted, a permutation of
exactly the other members.  `better = .gt` is `max`, `better = .lt` is `min` (with `le` reversed). -/
theorem minmax_eq_spec (better : Method) (le : Scalar → Scalar → Bool) (data : Node) (a : Addr)
    (inv : Bool) (ps : List Str) (cs : List Cand) (hps : ps.length ≤ 1)
    (hc : mmCands data a ps.head? = .ok (some cs)) (ho : ScanOrder better le (candVals cs)) :
    ∃ out, kwMinMax better data a inv ps = .ok (.nodes out) ∧
      (inv = false → out = Spec.extremes le cs) ∧ (inv = true → List.Perm out (Spec.others le cs)) := by
  obtain ⟨st, hs, h1, h2⟩ := scan_eq_spec better le cs ho
  unfold kwMinMax
  have : ¬ ps.length > 1 := Nat.not_lt.mpr hps
  simp only [this, if_false, hc, hs]
  cases inv
  · exact ⟨st.hits, rfl, fun _ => h1, fun h => (by cases h)⟩
  · exact ⟨st.discards, rfl, fun h => (by cases h), fun _ => h2⟩

/-- **C13 max**: members whose value is `≥` every other comparable member's; inverted: the others. -/
theorem max_eq_spec (le : Scalar → Scalar → Bool) (data : Node) (a : Addr) (inv : Bool) (raw : Str)
    (ps : List Str) (cs : List Cand) (hsplit : splitParams raw = .ok ps) (hps : ps.length ≤ 1)
    (hc : mmCands data a ps.head? = .ok (some cs)) (ho : ScanOrder .gt le (candVals cs)) :
    ∃ out, kwSearch data a inv .max raw = .ok (.nodes out) ∧
      (inv = false → out = Spec.extremes le cs) ∧ (inv = true → List.Perm out (Spec.others le cs)) := by
  unfold kwSearch; rw [hsplit]; exact minmax_eq_spec .gt le data a inv ps cs hps hc ho

/-- **C13 min**: the same with the order reversed (`le x y` = "`y` is at most `x`"). -/
theorem min_eq_spec (le : Scalar → Scalar → Bool) (data : Node) (a : Addr) (inv : Bool) (raw : Str)
    (ps : List Str) (cs : List Cand) (hsplit : splitParams raw = .ok ps) (hps : ps.length ≤ 1)
    (hc : mmCands data a ps.head? = .ok (some cs)) (ho : ScanOrder .lt le (candVals cs)) :
    ∃ out, kwSearch data a inv .min raw = .ok (.nodes out) ∧
      (inv = false → out = Spec.extremes le cs) ∧ (inv = true → List.Perm out (Spec.others le cs)) := by
  unfold kwSearch; rw [hsplit]; exact minmax_eq_spec .lt le data a inv ps cs hps hc ho

/-- Collections of one kind — all ints, all floats (exact decimals, `decCmp`), all Booleans, or all
non-literal text (`strLe`, by code point) — meet the order hypothesis of `max_eq_spec` with the one
order `valLe` (`Lemmas/Keyword.lean`): `decCmp` and `strLe` are total and transitive and the loop's
two comparisons decide them. -/
theorem scanOrder_same_kind_max (vals : List Scalar) (h : SameKind vals) : ScanOrder .gt valLe vals := by
  obtain ⟨P, ko, hP⟩ := sameKind_order h
  exact ⟨fun x hx y hy => ko.total x y (hP x hx) (hP y hy),
         fun x hx y hy z hz => ko.trans x y z (hP x hx) (hP y hy) (hP z hz),
         fun x hx b hb => ko.gt x b (hP x hx) (hP b hb),
         fun x hx b hb => ko.eq x b (hP x hx) (hP b hb)⟩

/-- … and of `min_eq_spec` with the reversed order `valGe`. -/
theorem scanOrder_same_kind_min (vals : List Scalar) (h : SameKind vals) : ScanOrder .lt valGe vals := by
  obtain ⟨P, ko, hP⟩ := sameKind_order h
  refine ⟨fun x hx y hy => ?_, fun x hx y hy z hz h1 h2 => ?_, fun x hx b hb => ?_, fun x hx b hb => ?_⟩
  · exact (ko.total x y (hP x hx) (hP y hy)).symm
  · exact ko.trans z y x (hP z hz) (hP y hy) (hP x hx) h2 h1
  · exact ko.lt x b (hP x hx) (hP b hb)
  · unfold valGe; rw [Bool.and_comm]; exact ko.eq x b (hP x hx) (hP b hb)

/-- `≤` on ints (anything else is not compared by the instances below). -/
def intLe : Scalar → Scalar → Bool
  | .int i, .int j => i ≤ j
  | _, _ => true

def intGe (x y : Scalar) : Bool := intLe y x

/-- Lists of ints meet the hypothesis of `max_eq_spec` with the usual order. -/
theorem scanOrder_ints_max (vals : List Scalar) (h : ∀ v ∈ vals, ∃ i, v = .int i) :
    ScanOrder .gt intLe vals :=
  (scanOrder_same_kind_max vals (.ints h)).congr fun x hx y hy => by
    obtain ⟨i, rfl⟩ := h x hx; obtain ⟨j, rfl⟩ := h y hy; rfl

/-- … and of `min_eq_spec` with the reversed order. -/
theorem scanOrder_ints_min (vals : List Scalar) (h : ∀ v ∈ vals, ∃ i, v = .int i) :
    ScanOrder .lt intGe vals :=
  (scanOrder_same_kind_min vals (.ints h)).congr fun x hx y hy => by
    obtain ⟨i, rfl⟩ := h x hx; obtain ⟨j, rfl⟩ := h y hy; rfl

/-- **C13 max on every same-kind collection** (no order hypothesis left): the members whose value is
`≥` every comparable member's, in document order; inverted: a permutation of exactly the others. -/
theorem max_same_kind_eq_spec (data : Node) (a : Addr) (inv : Bool) (raw : Str)
    (ps : List Str) (cs : List Cand) (hsplit : splitParams raw = .ok ps) (hps : ps.length ≤ 1)
    (hc : mmCands data a ps.head? = .ok (some cs)) (hk : SameKind (candVals cs)) :
    ∃ out, kwSearch data a inv .max raw = .ok (.nodes out) ∧
      (inv = false → out = Spec.extremes valLe cs) ∧ (inv = true → List.Perm out (Spec.others valLe cs)) :=
  max_eq_spec valLe data a inv raw ps cs hsplit hps hc (scanOrder_same_kind_max _ hk)

/-- **C13 min on every same-kind collection**: the members whose value is `≤` every comparable
member's (`valGe x y` = "`y ≤ x`"), in document order; inverted: a permutation of the others. -/
theorem min_same_kind_eq_spec (data : Node) (a : Addr) (inv : Bool) (raw : Str)
    (ps : List Str) (cs : List Cand) (hsplit : splitParams raw = .ok ps) (hps : ps.length ≤ 1)
    (hc : mmCands data a ps.head? = .ok (some cs)) (hk : SameKind (candVals cs)) :
    ∃ out, kwSearch data a inv .min raw = .ok (.nodes out) ∧
      (inv = false → out = Spec.extremes valGe cs) ∧ (inv = true → List.Perm out (Spec.others valGe cs)) :=
  min_eq_spec valGe data a inv raw ps cs hsplit hps hc (scanOrder_same_kind_min _ hk)

/-- The members of a plain list are its positions; a null is not comparable, a scalar is its value. -/
theorem members_of_list (a : Addr) : ∀ (items : List Node) (i : Nat),
    (∀ n ∈ items, n.isScalar = true) →
    candsList a items i = .ok ((items.zipIdx i).map (fun (n, j) =>
      (a ++ [.idx j], match n with | .scalar _ .null => none | .scalar _ v => some v | _ => none)))
  | items, i, h => by
    induction items generalizing i with
    | nil => rfl
    | cons n rest ih =>
      cases n with
      | scalar _ v =>
        rw [candsList, ih (i + 1) fun n' hn' => h n' (List.mem_cons_of_mem _ hn')]
        cases v <;> rfl
      | _ => cases h _ List.mem_cons_self

/-- The comparable value of a member under the attribute `name`: the attribute's non-null scalar
value; a member that is no hash, lacks the attribute or holds a null there is not comparable. -/
def Spec.memberValue (name : Str) (n : Node) : Option Scalar :=
  match n with
  | .map _ es =>
    match attrOf es name with
    | some (.scalar _ .null) => none
    | some (.scalar _ v) => some v
    | _ => none
  | _ => none

/-- Every attribute `name` held by a member hash is a scalar (containers there are out of model). -/
def AttrScalar (name : Str) (n : Node) : Prop :=
  ∀ anc es x, n = .map anc es → attrOf es name = some x → x.isScalar = true

theorem attrVal_comparable {name : Str} {n : Node} (h : AttrScalar name n) {other : Except Err (Option Scalar)}
    (ho : n.isMap = false → other = .ok none) :
    attrVal comparable name other n = .ok (Spec.memberValue name n) := by
  cases n with
  | map anc es =>
    rw [attrVal, Spec.memberValue]
    cases ha : attrOf es name with
    | none => rfl
    | some x =>
      have hx := h anc es x rfl ha
      cases x with
      | scalar _ v => cases v <;> rfl
      | _ => cases hx
  | _ => exact ho rfl

/-- The members of an Array-of-Hashes under `max(name)`/`min(name)` are its positions; the
comparable value of a member is its non-null scalar attribute. -/
theorem members_of_aoh (name : Str) (a : Addr) : ∀ (items : List Node) (i : Nat),
    (∀ n ∈ items, AttrScalar name n) →
    candsAoh name a items i = .ok ((items.zipIdx i).map (fun (n, j) => (a ++ [.idx j], Spec.memberValue name n)))
  | items, i, h => by
    induction items generalizing i with
    | nil => rfl
    | cons n rest ih =>
      rw [candsAoh_cons, attrVal_comparable (h n List.mem_cons_self) fun _ => rfl,
        ih (i + 1) fun n' hn' => h n' (List.mem_cons_of_mem _ hn')]
      rfl

/-- The members of a hash of hashes are its keys, in order.  A child that is not a hash is not
comparable — unless the parameter names a key of the parent itself (`inData`), which the code
refuses with a YAML Path error (excluded here by `hkids`). -/
theorem members_of_map (name : Str) (inData : Bool) (a : Addr) : ∀ (es : List (Key × Node)),
    (∀ kn ∈ es, AttrScalar name kn.2) → (inData = true → ∀ kn ∈ es, kn.2.isMap = true) →
    candsMap name inData a es = .ok (es.map (fun (k, n) => (a ++ [.key k], Spec.memberValue name n)))
  | es, h, hkids => by
    induction es with
    | nil => rfl
    | cons kn rest ih =>
      obtain ⟨k, n⟩ := kn
      have ho : n.isMap = false →
          (if inData then .error ypathErr else .ok none : Except Err (Option Scalar)) = .ok none := by
        intro hn
        cases inData with
        | false => rfl
        | true => rw [hkids rfl (k, n) List.mem_cons_self] at hn; cases hn
      rw [candsMap_cons, attrVal_comparable (h (k, n) List.mem_cons_self) ho,
        ih (fun kn hkn => h kn (List.mem_cons_of_mem _ hkn))
          fun hi kn hkn => hkids hi kn (List.mem_cons_of_mem _ hkn)]
      rfl

/-! ## has_child -/

/-- **C13 has_child** on a hash: the hash itself iff it has (inverted: lacks) the key. -/
theorem has_child_map_eq_spec (anc : Option Str) (es : List (Key × Node)) (a : Addr) (inv : Bool) (k : Str)
    (c : Char) (r : Str) (hk : k = c :: r) (hamp : c ≠ '&') :
    hasChild (.map anc es) a inv [k] =
      .ok (.nodes (if ((es.lookup (.str k)).isSome != inv) then [a] else [])) := by
  subst hk
  simp only [hasChild]
  split
  · rename_i e; cases e
  · rename_i e; cases e; exact absurd rfl hamp
  · simp only [hasConcreteChild, hasChildMap, yieldIf_eq_bne, attrOf]; rfl

/-- The members of an Array-of-Hashes that have (inverted: lack) the key, in document order. -/
def Spec.hashesWithKey (inv : Bool) (k : Str) (a : Addr) (items : List Node) (i : Nat) : List Addr :=
  (items.zipIdx i).filterMap (fun (n, j) =>
    match n with
    | .map _ es => if ((es.lookup (.str k)).isSome != inv) then some (a ++ [.idx j]) else none
    | _ => none)

/-- **C13 has_child** over an Array-of-Hashes: exactly the member hashes having (lacking) the key. -/
theorem has_child_aoh_eq_spec (inv : Bool) (k : Str) (a : Addr) : ∀ (items : List Node) (i : Nat),
    hasChildAoh inv k a items i = Spec.hashesWithKey inv k a items i
  | items, i => by
    induction items generalizing i with
    | nil => rfl
    | cons n rest ih =>
      rw [hasChildAoh_cons, ih (i + 1)]
      unfold Spec.hashesWithKey
      rw [List.zipIdx_cons, List.filterMap_cons]
      cases n with
      | map anc es =>
        simp only [hasChildMap, yieldIf_eq_bne, attrOf]
        cases (es.lookup (.str k)).isSome != inv <;> rfl
      | _ => rfl

/-! ## parent, name -/

/-- The address with `n` references dropped from its end. -/
def Spec.ancestor (a : Addr) : Nat → Addr
  | 0 => a
  | n + 1 => (Spec.ancestor a n).dropLast

theorem ancestor_eq_take (a : Addr) : ∀ n, Spec.ancestor a n = a.take (a.length - n)
  | 0 => List.take_length.symm
  | n + 1 => by
    rw [Spec.ancestor, ancestor_eq_take a n, List.dropLast_eq_take, List.length_take,
      Nat.min_eq_left (Nat.sub_le ..), List.take_take, Nat.min_eq_left (Nat.sub_le ..), Nat.sub_sub]

/-- **C13 parent(n)**, `1 ≤ n ≤ depth`: the `n`-th ancestor of the current node. -/
theorem parent_eq_spec (a : Addr) (p : Str) (n : Nat) (hp : pyInt? p = some (n : Int)) (h1 : 1 ≤ n)
    (hn : n ≤ a.length) : kwParent a false [p] = .ok (.nodes [Spec.ancestor a n]) := by
  unfold kwParent
  have c1 : ¬ ((n : Int) > (a.length : Int)) := by omega
  have c2 : ¬ ((n : Int) < 1) := by omega
  simp [hp, c1, c2, ancestor_eq_take]

/-- `parent()` without a parameter climbs one level. -/
theorem parent_default_eq_spec (a : Addr) (hn : 1 ≤ a.length) :
    kwParent a false [] = .ok (.nodes [Spec.ancestor a 1]) := by
  unfold kwParent
  have c1 : ¬ ((1 : Int) > (a.length : Int)) := by omega
  simp [c1, ancestor_eq_take]

/-- `parent(0)` (and any `n < 1`) is the present node. -/
theorem parent_zero_eq_spec (a : Addr) (p : Str) (z : Int) (hp : pyInt? p = some z) (hz : z < 1) :
    kwParent a false [p] = .ok (.nodes [a]) := by
  unfold kwParent
  have c1 : ¬ (z > (a.length : Int)) := by omega
  simp [hp, c1, hz]

/-- **C13**: `parent(n)` refuses to climb above the root — a YAML Path error, never a result. -/
theorem parent_refuses_above_root (a : Addr) (p : Str) (z : Int) (hp : pyInt? p = some z)
    (hz : z > (a.length : Int)) : kwParent a false [p] = .error (.ypath .generic) := by
  unfold kwParent
  simp [hp, hz, ypathErr]

/-- **C13 name()**: the key or index under which the current node is held (none at the root). -/
theorem name_eq_spec (a : Addr) : kwName a false [] = .ok (.name a.getLast?) := rfl

/-! ## unique / distinct

The members are the positions (keys) holding a value: every scalar of a plain list, every hash of an
Array-of-Hashes / hash of hashes that has the attribute (`Spec.keyed`).  Equality of values is
Python's `==` (`pyEq`: `True == 1 == 1.0`), proved an equivalence relation (`pyEq_refl`,
`pyEq_symm`, `pyEq_trans` in `Lemmas/Keyword.lean`, from `decCmp` being the comparison of the
denoted decimals). -/

/-- The members `unique`/`distinct` group, with their values, in document order. -/
def Spec.keyed (data : Node) (a : Addr) (scan : Option Str) : List Keyed :=
  match data, scan with
  | .seq _ items, none => keyedList a items 0
  | .seq _ items, some name => keyedAoh name a items 0
  | .map _ es, some name => keyedMap name a es
  | _, _ => []

/-- The members whose value occurs exactly once, in document order. -/
def Spec.occurringOnce (ms : List Keyed) : List Addr :=
  (ms.filter (fun m => occurrences ms m.2 == 1)).map (·.1)

/-- The members whose value occurs more than once, in document order. -/
def Spec.occurringMore (ms : List Keyed) : List Addr :=
  (ms.filter (fun m => decide (1 < occurrences ms m.2))).map (·.1)

/-- The first member of each group of equal values: the members no predecessor of which has an
equal value, in document order. -/
def Spec.firstOfEach (ms : List Keyed) : List Addr := firstsFrom [] ms

theorem ok_of_map_some {α : Type} {x : Except Err α} {g : α} (h : x.map some = .ok (some g)) : x = .ok g := by
  cases x with
  | error e => cases h
  | ok y => cases h; rfl

/-- The table `seen_values` the code builds over a collection is the insertion of its members in
document order. -/
theorem groups_eq_spec (data : Node) (a : Addr) (scan : Option Str) (g : Groups)
    (h : kwGroups data a scan = .ok (some g)) : g = groupsOf [] (Spec.keyed data a scan) := by
  cases data with
  | scalar _ _ => cases h
  | set _ _ => cases h
  | map anc es =>
    cases scan with
    | none => cases h
    | some name => exact groupMap_eq name _ a es [] g (ok_of_map_some h)
  | seq anc items =>
    simp only [kwGroups] at h
    split at h
    · cases scan with
      | none => cases h
      | some name => exact groupAoh_eq name a items 0 [] g (ok_of_map_some h)
    · cases scan with
      | none => exact groupList_eq a items 0 [] g (ok_of_map_some h)
      | some name => cases h

/-- A plain list of scalars (not all of them null) is grouped without error. -/
theorem groups_of_list (anc : Option Str) (items : List Node) (a : Addr)
    (hs : ∀ n ∈ items, n.isScalar = true) (hA : isAoh true items = false) :
    kwGroups (.seq anc items) a none = .ok (some (groupsOf [] (keyedList a items 0))) := by
  simp [kwGroups, hA, groupList_scalars a items 0 [] hs, Except.map]

/-- **C13 unique**: on any collection that the code can group (`hg`: no unhashable member, the
parameter fits the shape), `unique` returns exactly the members whose value occurs once, in
document order, and inverted exactly those whose value occurs more than once (a permutation of
them: the code yields them group by group). -/
theorem unique_eq_spec (data : Node) (a : Addr) (inv : Bool) (raw : Str) (ps : List Str) (g : Groups)
    (hsplit : splitParams raw = .ok ps) (hps : ps.length ≤ 1)
    (hg : kwGroups data a ps.head? = .ok (some g)) :
    ∃ out, kwSearch data a inv .unique raw = .ok (.nodes out) ∧
      (inv = false → out = Spec.occurringOnce (Spec.keyed data a ps.head?)) ∧
      (inv = true → List.Perm out (Spec.occurringMore (Spec.keyed data a ps.head?))) := by
  cases groups_eq_spec data a ps.head? g hg
  unfold kwSearch; rw [hsplit]
  unfold kwUnique
  have : ¬ ps.length > 1 := Nat.not_lt.mpr hps
  simp only [this, if_false, hg]
  cases inv
  · exact ⟨_, rfl, fun _ => groupSel_once _, fun h => (nomatch h)⟩
  · exact ⟨_, rfl, fun h => (nomatch h), fun _ => groupSel_perm (fun k => decide (1 < k)) _⟩

/-- **C13 distinct**: on any collection that the code can group, `distinct` returns exactly the first
member of each group of equal values, in document order. -/
theorem distinct_eq_spec (data : Node) (a : Addr) (raw : Str) (ps : List Str) (g : Groups)
    (hsplit : splitParams raw = .ok ps) (hps : ps.length ≤ 1)
    (hg : kwGroups data a ps.head? = .ok (some g)) :
    kwSearch data a false .distinct raw = .ok (.nodes (Spec.firstOfEach (Spec.keyed data a ps.head?))) := by
  have hge := groups_eq_spec data a ps.head? g hg
  unfold kwSearch; rw [hsplit]
  unfold kwDistinct
  have : ¬ ps.length > 1 := Nat.not_lt.mpr hps
  simp only [this, if_false, hg, Bool.false_eq_true]
  rw [hge, group_heads_nil]; rfl

/-- Non-complex data is always unique and distinct; inverted `unique` yields nothing. -/
theorem unique_distinct_non_complex (anc : Option Str) (v : Scalar) (a : Addr) (inv : Bool) :
    kwUnique (.scalar anc v) a inv [] = .ok (.nodes (if inv then [] else [a])) ∧
    kwDistinct (.scalar anc v) a false [] = .ok (.nodes [a]) := ⟨rfl, rfl⟩

/-! ## Witnesses -/

def ex1 : Node := .seq none [.scalar none (.int 2), .scalar none (.int 10), .scalar none .null,
  .scalar none (.int 9), .scalar none (.int 10)]

example : kwSearch ex1 [] false .max [] = .ok (.nodes [[.idx 1], [.idx 4]]) := by decide +kernel
example : kwSearch ex1 [] true .max [] = .ok (.nodes [[.idx 0], [.idx 2], [.idx 3]]) := by decide +kernel
example : kwSearch ex1 [] false .min [] = .ok (.nodes [[.idx 0]]) := by decide +kernel
example : kwSearch ex1 [] false .unique [] = .ok (.nodes [[.idx 0], [.idx 2], [.idx 3]]) := by decide +kernel
example : kwSearch ex1 [] true .unique [] = .ok (.nodes [[.idx 1], [.idx 4]]) := by decide +kernel
example : kwSearch ex1 [] false .distinct [] = .ok (.nodes [[.idx 0], [.idx 1], [.idx 2], [.idx 3]]) := by
  decide +kernel
example : candsList [] [.scalar none (.int 2), .scalar none .null] 0
    = .ok [([.idx 0], some (.int 2)), ([.idx 1], none)] := by decide +kernel
/-- the hypothesis of `max_eq_spec` is met by a concrete list of ints -/
example : ScanOrder .gt intLe [.int 2, .int 10, .int 9] :=
  scanOrder_ints_max _ (by intro v hv; simp at hv; rcases hv with rfl | rfl | rfl <;> exact ⟨_, rfl⟩)

def aoh : Node := .seq none [.map none [(.str ['a'], .scalar none (.int 5))],
  .map none [(.str ['a'], .scalar none .null)], .map none [(.str ['b'], .scalar none (.int 1))]]

/-- a null attribute is not comparable: the member is never the maximum (the pinned code returned
it: `fixes/C13-1.patch`) -/
example : kwSearch aoh [] false .max ['a'] = .ok (.nodes [[.idx 0]]) := by decide +kernel
example : kwSearch aoh [] true .max ['a'] = .ok (.nodes [[.idx 1], [.idx 2]]) := by decide +kernel
example : kwSearch aoh [] false .hasChild ['a'] = .ok (.nodes [[.idx 0], [.idx 1]]) := by decide +kernel
example : kwSearch aoh [] true .hasChild ['a'] = .ok (.nodes [[.idx 2]]) := by decide +kernel
example : kwSearch aoh [.key (.str ['l']), .idx 1] false .parent ['1'] = .ok (.nodes [[.key (.str ['l'])]]) := by
  decide +kernel
example : kwSearch aoh [.key (.str ['l'])] false .parent ['2'] = .error (.ypath .generic) := by decide +kernel
example : kwSearch aoh [.key (.str ['l']), .idx 1] false .name [] = .ok (.name (some (.idx 1))) := by decide +kernel
/-- the splitter's `ValueError` and a list holding a hash under `unique()` (C15's `TypeError`) -/
example : splitParams "'a".toList = .error (.crash .valueError) := by decide +kernel
example : kwSearch (.seq none [.scalar none (.str ['a']), .map none []]) [] false .unique []
    = .error (.crash .typeError) := by decide +kernel

/-! ### same-kind collections, unique/distinct, Array-of-Hashes members -/

def exF : Node := .seq none [.scalar none (.float 15 (-1)), .scalar none (.float 225 (-2)),
  .scalar none (.float 2250 (-3)), .scalar none (.float 1 1)]

/-- the hypothesis of `max_same_kind_eq_spec` is met by a list of floats (2.25 = 2.250 tie) and by a
list of non-literal strings -/
example : SameKind [.float 15 (-1), .float 225 (-2), .float 2250 (-3), .float 1 1] :=
  .floats (by intro v hv; simp at hv; rcases hv with rfl | rfl | rfl | rfl <;> exact ⟨_, _, rfl⟩)
example : SameKind [.str "ab".toList, .str "b".toList, .str "B a".toList] :=
  .texts (by unfold IsText; decide +kernel)
example : kwSearch exF [] false .max [] = .ok (.nodes [[.idx 3]]) := by decide +kernel
example : kwSearch exF [] true .min [] = .ok (.nodes [[.idx 1], [.idx 2], [.idx 3]]) := by decide +kernel
example : Spec.extremes valGe [([.idx 0], some (.float 15 (-1))), ([.idx 1], none), ([.idx 2], some (.float 150 (-2)))]
    = [[.idx 0], [.idx 2]] := by decide +kernel

/-- `True == 1 == 1.0` under Python `==`: one group; the hypothesis `hg` of `unique_eq_spec` /
`distinct_eq_spec` is met and the specifications say what the code yields -/
def exU : Node := .seq none [.scalar none (.int 1), .scalar none (.bool true), .scalar none (.str ['x']),
  .scalar none (.float 10 (-1)), .scalar none .null, .scalar none (.str ['x']), .scalar none (.int 7)]

example : ∃ g, kwGroups exU [] none = .ok (some g) := ⟨_, groups_of_list none _ [] (by decide) (by decide)⟩
example : Spec.occurringOnce (Spec.keyed exU [] none) = [[.idx 4], [.idx 6]] := by decide +kernel
example : Spec.occurringMore (Spec.keyed exU [] none) = [[.idx 0], [.idx 1], [.idx 2], [.idx 3], [.idx 5]] := by
  decide +kernel
example : Spec.firstOfEach (Spec.keyed exU [] none) = [[.idx 0], [.idx 2], [.idx 4], [.idx 6]] := by decide +kernel
example : kwSearch exU [] false .unique [] = .ok (.nodes [[.idx 4], [.idx 6]]) := by decide +kernel
/-- inverted `unique` comes group by group — a permutation of the document order -/
example : kwSearch exU [] true .unique [] = .ok (.nodes [[.idx 0], [.idx 1], [.idx 3], [.idx 2], [.idx 5]]) := by
  decide +kernel
example : kwSearch exU [] false .distinct [] = .ok (.nodes [[.idx 0], [.idx 2], [.idx 4], [.idx 6]]) := by
  decide +kernel

/-- members of an Array-of-Hashes / hash of hashes: null and missing attributes are not comparable -/
example : candsAoh ['a'] [] [.map none [(.str ['a'], .scalar none (.int 5))],
      .map none [(.str ['a'], .scalar none .null)], .map none [(.str ['b'], .scalar none (.int 1))]] 0
    = .ok [([.idx 0], some (.int 5)), ([.idx 1], none), ([.idx 2], none)] := by decide +kernel
example : Spec.keyed aoh [] (some ['a']) = [([.idx 0], .int 5), ([.idx 1], .null)] := by decide +kernel
example : kwSearch aoh [] false .unique ['a'] = .ok (.nodes [[.idx 0], [.idx 1]]) := by decide +kernel

end Ypv.C13
