import Ypv.Lemmas.Rotate
import Ypv.Lemmas.Save
/-!
# C19 — EYAML key rotation re-keys every secret once and touches nothing else

The model (`Ypv/Model/Rotate.lean`) walks the document the way `eyaml_rotate_keys.main` does, with
an abstract cipher.  `decryptValue C k s` is the tool's own notion of "the plaintext of the value
`s` under key `k`" (`decrypt_eyaml`: blanks and line breaks removed, the command's output
`rstrip`ped, an empty or unchanged answer is a failure).  The cipher laws are the hypotheses
`Laws C old new` (never axioms):

* `roundtrip`  a plaintext encrypted under the new key decrypts under the new key to itself,
* `wrongKey`   and does not decrypt under the old key,
* `marked`     a ciphertext carries the `ENC[` marker.

`Rel (Good C old new) d d'` says: `d'` has the same shape, keys, order and anchors as `d`; every
encrypted scalar of `d` became a scalar that decrypts under the new key to the plaintext it had
under the old key and no longer decrypts under the old key; every other scalar is identical.

`rotate_once_and_shared` (sharing and call counts) needs neither the cipher laws nor a successful run.

Known findings excluded by explicit hypotheses (witnesses below): a plaintext that itself looks
encrypted is stored raw (C19-F2, `WF`); a document that is a single scalar is not searched
(C19-F3, `isContainer`); trailing blanks of a plaintext are lost — invisible at the level of
`decryptValue`, whose answer is already `rstrip`ped (C19-F1).
-/
namespace Ypv.C19
open Ypv Ypv.Rotate

def isContainer : Node → Bool
  | .seq .. | .map .. => true
  | _ => false

/-- A scalar or set document is not walked; any other is walked from the empty state. -/
theorem rotate_cases (C : Cipher) (old new : Str) (d : Node) :
    (isContainer d = true ∧ rotate C old new d = rotNode C old new d St.init) ∨
    (isContainer d = false ∧ rotate C old new d = (d, St.init)) := by
  cases d with
  | scalar | set => exact .inr ⟨rfl, rfl⟩
  | seq | map => exact .inl ⟨rfl, rfl⟩

/-- Full statement (not provable for the pinned code, see C19-F2 / C19-F3): for every `d` whose
anchors name one node each, `(rotate C old new d).2.failed = false → Rel (Good C old new) d (rotate C old new d).1`.

Proved: for every document whose root is a sequence or mapping, whose anchors name one node each
and none of whose plaintexts looks encrypted itself (`WF`), a run that ends with status 0 has
re-keyed every encrypted value and changed nothing else.  Missing for the full statement: the
two input classes of the known findings C19-F2 and C19-F3. -/
theorem rotate_rekeys_partial (C : Cipher) (old new : Str) (L : Laws C old new)
    (tbl : Str → Option Node) (d : Node) (hroot : isContainer d = true)
    (hwf : WF C old tbl d) (hok : (rotate C old new d).2.failed = false) :
    Rel (Good C old new) d (rotate C old new d).1 := by
  rcases rotate_cases C old new d with ⟨_, e⟩ | ⟨h, _⟩
  · rw [e] at hok ⊢
    exact (rotNode_ok C old new L tbl d St.init hwf (fun _ _ h => nomatch h) hok).1
  · rw [hroot] at h; cases h

/-- What `Good` gives for one encrypted scalar, spelled out. -/
theorem good_secret (C : Cipher) (old new : Str) (s : Str) (v' : Scalar) (hs : isEyaml s = true)
    (h : Good C old new (.str s) v') :
    ∃ s' p, v' = .str s' ∧ decryptValue C old s = some p ∧ decryptValue C new s' = some p ∧
      decryptValue C old s' = none := by
  unfold Good at h
  simp only [isSecret, hs, if_true] at h
  obtain ⟨s0, s', p, h0, h1, h2, h3, h4, _⟩ := h
  cases h0
  exact ⟨s', p, h1, h2, h3, h4⟩

/-- … and for any other scalar: untouched. -/
theorem good_plain (C : Cipher) (old new : Str) (v v' : Scalar) (hs : isSecret v = false)
    (h : Good C old new v v') : v' = v := by
  unfold Good at h; simpa [hs] using h

/-- Every non-encrypted key, value, ordering and anchor is unchanged: blanking the text of the
secrets, the document after a successful rotation is the document before (same hypotheses as
`rotate_rekeys_partial`; for a scalar or set document the rotation is the identity outright). -/
theorem rotate_frame (C : Cipher) (old new : Str) (L : Laws C old new)
    (tbl : Str → Option Node) (d : Node)
    (hwf : WF C old tbl d) (hok : (rotate C old new d).2.failed = false) :
    mask (rotate C old new d).1 = mask d := by
  rcases rotate_cases C old new d with ⟨hd, _⟩ | ⟨_, e⟩
  · exact mask_of_rel C old new _ _ (rotate_rekeys_partial C old new L tbl d hd hwf hok)
  · rw [e]

/-- **Values shared through an anchor are rotated once and stay shared.**

For every document whose anchors name one node each (`WF`; no cipher law is assumed, and whether
or not the run fails):

* *stay shared* — there is one anchor table `g` for the whole output: every anchored node of the
  rotated document is the node `g` gives for its anchor name (`AnchorsOne`), so all occurrences of one
  anchor are equal in the output.  `g` is the table of recorded images (`seen`), and the unchanged
  input node for every anchor the loop did not record;
* *rotated once* — for any list `names` holding the anchor name of every anchored encrypted scalar
  (in particular a duplicate-free one), the numbers of decryptions and of encryptions are at most
  the number of un-anchored encrypted scalars plus `names.length`: one cipher round per distinct
  anchored secret, however many aliases it has.

Proof: recorded images are never overwritten (`Ext`, monotonicity of `seen` through the walk; an
anchored container cannot contain its own anchor: `rotNode_new`), see `rotNode_shared` and `rotNode_once`
in `Lemmas/Rotate.lean`. -/
theorem rotate_once_and_shared (C : Cipher) (old new : Str) (tbl : Str → Option Node) (d : Node)
    (names : List Str) (hwf : WF C old tbl d) (hnames : ∀ an ∈ secretAnchors d, an ∈ names) :
    (∃ g : Str → Option Node, AnchorsOne g (rotate C old new d).1 ∧
      (∀ an n', (rotate C old new d).2.seen.lookup an = some n' → g an = some n') ∧
      (∀ an, (rotate C old new d).2.seen.lookup an = none → g an = tbl an)) ∧
    (rotate C old new d).2.decs ≤ bareCount d + names.length ∧
    (rotate C old new d).2.nonce ≤ bareCount d + names.length := by
  rcases rotate_cases C old new d with ⟨_, e⟩ | ⟨hd, e⟩ <;> rw [e]
  · have hs := rotNode_shared C old new tbl d St.init hwf ⟨nofun, nofun⟩
    have ho := rotNode_once C old new tbl names d St.init hwf hnames
      ⟨List.nodup_nil, fun _ he _ => nomatch he⟩
    exact ⟨⟨outTbl tbl _, hs.2.2 _ (Ext.refl _) hs.1.1, fun _ _ h => outTbl_of_lookup h,
      fun an h => by unfold outTbl; rw [h]⟩, calls_init ho.2 (scalarEntries_le ho.1)⟩
  · refine ⟨⟨tbl, ?_, fun _ _ h => (nomatch h), fun _ _ => rfl⟩, Nat.zero_le _, Nat.zero_le _⟩
    cases d with
    | scalar a v => exact hwf.1
    | set a ms => trivial
    | _ => cases hd

/-- The two local facts the loop rests on: an encrypted scalar whose anchor has been rotated already
takes the recorded image and causes no cipher call and no state change at all; the first visit of
an anchored encrypted scalar records its image under its anchor with at most one encryption. -/
theorem alias_takes_recorded_image (C : Cipher) (old new : Str) (an : Str) (s : Str)
    (hs : isEyaml s = true) (st : St) :
    (∀ n', st.seen.lookup an = some n' →
      rotNode C old new (.scalar (some an) (.str s)) st = (n', st)) ∧
    (st.seen.lookup an = none →
      (rotNode C old new (.scalar (some an) (.str s)) st).2.seen.lookup an =
        some (rotNode C old new (.scalar (some an) (.str s)) st).1 ∧
      (rotNode C old new (.scalar (some an) (.str s)) st).2.nonce ≤ st.nonce + 1) := by
  rcases rotNode_scalar C old new (some an) (.str s) st with ⟨h, _⟩ | ⟨s', hs', _, e⟩
  · exact absurd (h.symm.trans hs) Bool.false_ne_true
  · cases hs'
    rw [e]
    refine ⟨fun n' h => ?_, fun h => ?_⟩
    · rw [visit_hit h, Bool.or_false]
    · rw [visit_first h]
      have := (rotValue_calls C old new s st).2
      rw [rotValue_seen] at this
      refine ⟨lookup_cons_self .., ?_⟩
      show (rotValue C old new s st).2.nonce ≤ st.nonce + 1
      omega

/-- A value is treated as encrypted exactly when, ignoring blanks and line breaks, it begins with
the `ENC[` marker. -/
theorem marker_iff (s : Str) :
    isEyaml s = true ↔ "ENC[".toList <+: s.filter (fun c => c ≠ ' ' ∧ c ≠ '\n') := by
  unfold isEyaml clean marker
  rw [List.isPrefixOf_iff_prefix, List.filter_filter]
  simp only [Bool.decide_and]

/-- A file holding no encrypted value is neither rewritten nor backed up: the rotation loop makes
no cipher call and reports no change, and the tool's steps on the file are read-only — the file
system afterwards is the file system before. -/
theorem no_secret_no_io (C : Cipher) (old new : Str) (d : Node) (h : noSecret d = true) :
    (rotate C old new d).2.changed = false ∧ (rotate C old new d).2.nonce = 0 ∧
    (rotate C old new d).2.decs = 0 ∧
    ∀ (fs : Save.FS) (saw isFile loadOk backup : Bool) (t : Str) (oc nc : List Save.Bytes),
      Save.run fs (Save.runRotateFile saw isFile loadOk (rotate C old new d).2.changed backup t oc nc) = fs := by
  have key : (rotate C old new d).2.changed = false ∧ (rotate C old new d).2.nonce = 0 ∧
      (rotate C old new d).2.decs = 0 := by
    rcases rotate_cases C old new d with ⟨_, e⟩ | ⟨_, e⟩ <;> rw [e]
    · exact rotNode_noSecret C old new d St.init h
    · exact ⟨rfl, rfl, rfl⟩
  refine ⟨key.1, key.2.1, key.2.2, fun fs saw isFile loadOk backup t oc nc => ?_⟩
  -- nothing has changed, so the steps are `stat` and `openRead` only
  rw [key.1]
  cases isFile <;> cases loadOk <;> rfl

/-! ## The hypotheses are met, and the exclusions are real -/

/-! the stand-in cipher on a concrete document: two secrets (one anchored and aliased), a plain
value; the run succeeds, both secrets are re-keyed, the alias shares the image, one encryption
per distinct secret. -/
private def doc : Node := .map none [
  (.str "a".toList, .scalar none (.str "plain".toList)),
  (.str "b".toList, .scalar (some "s".toList) (.str (fakeEnc "k1".toList 0 "hi".toList))),
  (.str "c".toList, .scalar (some "s".toList) (.str (fakeEnc "k1".toList 0 "hi".toList))),
  (.str "d".toList, .seq none [.scalar none (.str (fakeEnc "k1".toList 0 "yo".toList))])]

example : (rotate fakeCipher "k1".toList "k2".toList doc).1 = .map none [
    (.str "a".toList, .scalar none (.str "plain".toList)),
    (.str "b".toList, .scalar (some "s".toList) (.str (fakeEnc "k2".toList 0 "hi".toList))),
    (.str "c".toList, .scalar (some "s".toList) (.str (fakeEnc "k2".toList 0 "hi".toList))),
    (.str "d".toList, .seq none [.scalar none (.str (fakeEnc "k2".toList 0 "yo".toList))])] := by
  decide +kernel

example : (rotate fakeCipher "k1".toList "k2".toList doc).2.failed = false
    ∧ (rotate fakeCipher "k1".toList "k2".toList doc).2.nonce = 2
    ∧ (rotate fakeCipher "k1".toList "k2".toList doc).2.decs = 2 := by decide +kernel

private def tblDoc : Str → Option Node := fun an =>
  if an = "s".toList then some (.scalar (some "s".toList) (.str (fakeEnc "k1".toList 0 "hi".toList))) else none

/-- the hypotheses of `rotate_once_and_shared` are met by the concrete document: its anchors name
one node each (`WF`), and `["s"]` lists the anchors of its anchored secrets … -/
example : WF fakeCipher "k1".toList tblDoc doc ∧ ∀ an ∈ secretAnchors doc, an ∈ ["s".toList] := by
  have sc : ∀ {t : Str} {q : Option Str}, decryptValue fakeCipher "k1".toList t = q →
      (∀ p, q = some p → isEyaml p = false) → ∀ s p, Scalar.str t = .str s →
      decryptValue fakeCipher "k1".toList s = some p → isEyaml p = false :=
    fun ht hq s p hv hd => hq p (ht ▸ Scalar.str.inj hv ▸ hd)
  have ⟨hi, yo, pl, nhi, nyo⟩ :
      decryptValue fakeCipher "k1".toList (fakeEnc "k1".toList 0 "hi".toList) = some "hi".toList ∧
      decryptValue fakeCipher "k1".toList (fakeEnc "k1".toList 0 "yo".toList) = some "yo".toList ∧
      decryptValue fakeCipher "k1".toList "plain".toList = none ∧
      isEyaml "hi".toList = false ∧ isEyaml "yo".toList = false := by decide +kernel
  have shi := sc hi fun p h => Option.some.inj h ▸ nhi
  have tb : ∀ an, some "s".toList = some an → tblDoc an = some (.scalar (some "s".toList)
      (.str (fakeEnc "k1".toList 0 "hi".toList))) := fun an h => Option.some.inj h ▸ if_pos rfl
  exact ⟨⟨nofun, ⟨nofun, sc pl fun _ h => nomatch h⟩, ⟨tb, shi⟩, ⟨tb, shi⟩,
    ⟨nofun, ⟨nofun, sc yo fun p h => Option.some.inj h ▸ nyo⟩, trivial⟩, trivial⟩, by decide +kernel⟩

/-- … the bound is tight on it (one un-anchored secret + one anchored secret with an alias = 2
decryptions, 2 encryptions), and both occurrences of `&s` are the one recorded image -/
example : bareCount doc + ["s".toList].length = 2
    ∧ (rotate fakeCipher "k1".toList "k2".toList doc).2.decs = 2
    ∧ (rotate fakeCipher "k1".toList "k2".toList doc).2.seen.lookup "s".toList =
        some (.scalar (some "s".toList) (.str (fakeEnc "k2".toList 0 "hi".toList))) := by decide +kernel

/-- the stand-in satisfies the laws on these values -/
example : decryptValue fakeCipher "k2".toList (fakeEnc "k2".toList 0 "hi".toList) = some "hi".toList
    ∧ decryptValue fakeCipher "k1".toList (fakeEnc "k2".toList 0 "hi".toList) = none
    ∧ isEyaml (fakeEnc "k2".toList 0 "hi".toList) = true := by decide +kernel

/-- C19-F3: a document that is one encrypted scalar is left as it is, with status 0. -/
example : (rotate fakeCipher "k1".toList "k2".toList (.scalar none (.str (fakeEnc "k1".toList 0 "hi".toList)))).1 =
      .scalar none (.str (fakeEnc "k1".toList 0 "hi".toList))
    ∧ (rotate fakeCipher "k1".toList "k2".toList (.scalar none (.str (fakeEnc "k1".toList 0 "hi".toList)))).2.failed = false := by
  decide +kernel

/-- C19-F2: a plaintext that looks encrypted is stored raw (here: the inner ciphertext, still
under the old key), with status 0. -/
example : (rotate fakeCipher "k1".toList "k2".toList
      (.seq none [.scalar none (.str (fakeEnc "k1".toList 0 (fakeEnc "k1".toList 0 "in".toList)))])).1 =
    .seq none [.scalar none (.str (fakeEnc "k1".toList 0 "in".toList))] := by decide +kernel

/-- the marker rule on blanks and line breaks inside and around the marker -/
example : isEyaml " E N\nC [x".toList = true ∧ isEyaml "ENC".toList = false ∧ isEyaml "xENC[".toList = false := by
  decide +kernel

end Ypv.C19
