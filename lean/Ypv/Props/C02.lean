import Ypv.Lemmas.Doc
import Ypv.Lemmas.EvalKwLoc
import Ypv.Lemmas.WriteSim
import Ypv.Lemmas.PathResolve
import Ypv.Lemmas.PathPop
import Ypv.Lemmas.PathDecode
/-!
# C02 — every result locates its node

Proved: for a well-formed document every real result of a query (and every member of a virtual
slice result) is a *located node* (`results_located`): its address resolves to the very node, the
reported parent address resolves to a node in which the reported parentref designates the last step
(`coords_sound`), the ancestry is the chain of (prefix, reference) pairs from the root, each
reference designating the next step inside the node the prefix resolves to (`ancestry_is_chain`),
and parent / parentref / ancestry / path sections have the chain structure of `coords_chain`.

`path_reresolves` (both notations): the text `str(result.path)` — the `YAMLPath` object the
evaluator accumulates section by section (`YAMLPath("") + section + …`, `Model/PathAcc.lean`),
stringified by the library's own `__str__` (C08 object model), also after `path.separator = FSLASH` —
parses, separator inferred, to segments which, evaluated from the document root, select exactly the
result's node, once, at its address.  Excluded classes, each an explicit decidable hypothesis with a
kernel-checked witness: twin keys `{1: x, '1': y}` (`W1.docClear`), key texts the notation cannot
write (empty, `*` inside, leading `&`, only control white space) and texts with two adjacent
backslashes, which `escape_path_section` copies unescaped (finding C07-K6) (`Sec.ok`), anchors borne by
several children of one parent (`aloneAlong`; for those `path_reresolves_aliased`: the path denotes
every bearer, in document order).  Keyword and collector segments are outside these theorems
(`plainKind`; what `[parent()]` does to the reported path is `pop_is_ctxUp` / `pop_anchor_is_ctxUp`).
-/
namespace Ypv.C02
open Ypv Ypv.Eval Gen

/-- Coordinates reachable from `c0` by child steps. -/
inductive From (c0 : Ctx) : Ctx → Prop
  | start : From c0 c0
  | child {c : Ctx} (r : Ref) (pr : PRef) (sec : Str) : From c0 c → From c0 (c.child r pr sec)

/-- Proper prefixes of an address, shortest first. -/
def prefixes : Addr → List Addr
  | [] => []
  | r :: rs => [] :: (prefixes rs).map (r :: ·)

theorem prefixes_append (a : Addr) (r : Ref) : prefixes (a ++ [r]) = prefixes a ++ [a] := by
  induction a with
  | nil => rfl
  | cons x xs ih => simp [prefixes, ih]

/-- **Chain structure of coordinates built from the root**: `parent` is the address without its last
reference, the ancestry lists exactly the proper prefixes of the address in order, `parentref` is
the reference recorded by the last ancestry entry, and the path has one section per reference. -/
theorem coords_chain (c : Ctx) (h : From Ctx.root c) :
    c.anc.map (·.1) = prefixes c.addr
    ∧ c.parent = (c.anc.getLast?).map (·.1)
    ∧ c.pref = (c.anc.getLast?).map (·.2)
    ∧ (c.addr = [] ↔ c.parent = none)
    ∧ (∀ p, c.parent = some p → p = c.addr.dropLast)
    ∧ c.path.length = c.addr.length := by
  induction h with
  | start => simp [Ctx.root, prefixes]
  | child r pr sec _ ih =>
    obtain ⟨h1, _, _, _, _, h6⟩ := ih
    simp [Ctx.child, prefixes_append, h1, h6]

/-- The coordinates the evaluator hands to the children of a node (`*`, and every handler that
enumerates members) are child steps of the node's coordinates. -/
theorem kids_coords_chain (c0 : Ctx) (n : Node) (c : Ctx) (h : From c0 c) : ∀ x ∈ kids n c, From c0 x.2 := by
  intro x hx
  cases n with
  | scalar a v => nomatch hx
  | seq a items =>
    obtain ⟨j, _, h2⟩ := (mem_idxKids (fun _ => rfl) (fun _ _ _ => rfl)).mp hx
    exact h2 ▸ From.child _ _ _ h
  | map a es =>
    obtain ⟨kv, _, rfl⟩ := List.mem_map.mp hx
    exact From.child _ _ _ h
  | set a ms =>
    obtain ⟨k, _, rfl⟩ := List.mem_map.mp hx
    exact From.child _ _ _ h

theorem Loc.from {d n : Node} {c : Ctx} (h : Loc d n c) : From Ctx.root c := by
  induction h with
  | root => exact From.start
  | child r pr sec m _ _ _ ih => exact From.child r pr sec ih

variable {mt : Matcher} {dsc : Desc} {rt : Node}

/-- **Every result locates its node.**  For a well-formed document `d` (distinct keys), every real
result `(n, c)` of `_get_required_nodes` from the root — and every member of a virtual slice result —
is a *located node*: its coordinates were built from the root by steps each leading from the parent
node to the child node under the reported reference. -/
theorem results_located {d : Node} (hd : d.WF) (segs : List ESeg) (hk : ∀ s ∈ segs, s.isKeyword = false) :
    ∀ r ∈ (required mt dsc rt segs (.real (d, Ctx.root))).1, ResLoc d r :=
  fun r hr => by
    have := Acc.all_required (P := Loc d) Acc.loc_child (Loc.wf · hd) segs hk (.real (d, Ctx.root)) Loc.root r hr
    cases r <;> exact this

/-- **coords_sound**: the address of a located node resolves to that very node; it is the root
(no parent, no reference), or its reported parent address resolves to a node `P` in which the
reported `parentref` designates (Python indexing for lists, key lookup for dicts, membership for
sets) exactly the last step of the address, and that step leads from `P` to the node. -/
theorem coords_sound {d n : Node} {c : Ctx} (h : Loc d n c) :
    d.get? c.addr = some n ∧
    ((c.addr = [] ∧ c.parent = none ∧ c.pref = none ∧ n = d) ∨
     (∃ p r pr P, c.addr = p ++ [r] ∧ c.parent = some p ∧ c.pref = some pr ∧ d.get? p = some P
        ∧ prefOk P pr r ∧ P.child? r = some n)) := by
  refine ⟨h.get, ?_⟩
  cases h with
  | root => left; simp [Ctx.root]
  | child r pr sec m hl hc hp =>
    right
    exact ⟨_, r, pr, _, rfl, rfl, rfl, hl.get, hp, hc⟩

/-- **ancestry_is_chain**: the ancestry of a located node has one entry per step of its address; the
`i`-th entry names the prefix of length `i` of the address, which resolves to a node in which the
recorded reference designates the `i`-th step. -/
theorem ancestry_is_chain {d n : Node} {c : Ctx} (h : Loc d n c) :
    c.anc.length = c.addr.length ∧
    ∀ i (hi : i < c.addr.length), ∃ P pr, c.anc[i]? = some (c.addr.take i, pr)
      ∧ d.get? (c.addr.take i) = some P ∧ prefOk P pr c.addr[i] := by
  induction h with
  | root => simp [Ctx.root]
  | @child n0 c0 r pr sec m hl hc hp ih =>
    obtain ⟨hlen, hall⟩ := ih
    refine ⟨by simp [Ctx.child, hlen], fun i hi => ?_⟩
    simp only [Ctx.child, List.length_append, List.length_cons, List.length_nil] at hi ⊢
    by_cases hlt : i < c0.addr.length
    · obtain ⟨P, pr', h1, h2, h3⟩ := hall i hlt
      rw [List.getElem?_append_left (hlen ▸ hlt), List.take_append_of_le_length (Nat.le_of_lt hlt),
        List.getElem_append_left hlt]
      exact ⟨P, pr', h1, h2, h3⟩
    · have hi' : i = c0.addr.length := by omega
      subst hi'
      rw [List.getElem?_append_right (Nat.le_of_eq hlen), hlen, Nat.sub_self, List.take_left' rfl]
      exact ⟨n0, pr, rfl, hl.get, by simpa using hp⟩

/-- The chain facts for the results of a query. -/
theorem required_coords_chain {d : Node} (hd : d.WF) (segs : List ESeg) (hk : ∀ s ∈ segs, s.isKeyword = false)
    (n : Node) (c : Ctx)
    (h : Res.real (n, c) ∈ (required mt dsc rt segs (.real (d, Ctx.root))).1) : From Ctx.root c :=
  Loc.from (results_located (mt := mt) (dsc := dsc) (rt := rt) hd segs hk _ h)

example : From Ctx.root (Ctx.root.child (.key (.str ['a'])) (.key (.str ['a'])) ['a']) := From.child _ _ _ From.start

/-- **Coordinates re-resolve.**  For a well-formed document without twin keys, every real result
`(n, c)` of a query (keyword segments aside): the segments naming its reported references — a key
or set member by its text, a list element by its index as reported (possibly negative) —, one per
ancestry entry, evaluated from the document root select exactly `n`, once, at the address `c.addr`. -/
theorem coords_reresolve {d : Node} (hd : d.WF) (hc : W1.docClear d = true) (segs : List ESeg)
    (hk : ∀ s ∈ segs, s.isKeyword = false) (n : Node) (c : Ctx)
    (h : Res.real (n, c) ∈ (required mt dsc rt segs (.real (d, Ctx.root))).1) (mt' : Matcher) (dsc' : Desc) :
    ∃ c', required mt' dsc' d (W1.pathSegs c) (.real (d, Ctx.root)) = Gen.one (.real (n, c')) ∧ c'.addr = c.addr :=
  Acc.coords_reresolve_loc mt' dsc' hc (results_located (mt := mt) (dsc := dsc) (rt := rt) hd segs hk _ h)

/-- **The canonical path text re-resolves** (the statement about `str(result.path)` itself is
`path_reresolves` below).  For a located node of a
well-formed document without twin keys whose keys the notation can express (`wfSegs`: no empty key,
no `*` inside, no leading `&`), the dot-notation text `write false (W1.pathSegsS c)` parses to segments
which, evaluated from the root, select exactly that node at its address. -/
theorem canonical_path_reresolves {d n : Node} {c : Ctx} (hd : d.WF) (hc : W1.docClear d = true) (hl : Loc d n c)
    (hwf : wfSegs (W1.pathSegsS c) = true) (mt' : Matcher) (dsc' : Desc) :
    ∃ sg, parseWith false true (write false (W1.pathSegsS c)) = .ok sg ∧
      ∃ c', required mt' dsc' d (sg.map ESeg.ofSeg) (.real (d, Ctx.root)) = Gen.one (.real (n, c')) ∧ c'.addr = c.addr := by
  refine ⟨W1.pathSegsS c, ?_, ?_⟩
  · simpa using Sim.parseWith_write false true (W1.pathSegsS c) hwf
  · rw [W1.pathSegsS_eseg]
    exact Acc.coords_reresolve_loc mt' dsc' hc hl

/-! ## The reported path text re-resolves -/

open Ypv.Acc in
/-- **Every result's path sections are those of its steps.**  For a well-formed document, every real
result `(n, c)` of a query (keyword and collector segments aside) is a located node whose path
sections `c.path` are, step by step, the sections `ss` naming the steps of its address inside their
parent nodes (`LocP`, `StepSec`): `[i]` for the reported index, the escaped text of the key (or of the
digits that found an integer key), `[&a]` for a child bearing the anchor `a`. -/
theorem results_pathed {d : Node} (hd : d.WF) (segs : List ESeg) (hk : ∀ s ∈ segs, plainKind s = true)
    (n : Node) (c : Ctx) (h : Res.real (n, c) ∈ (required mt dsc rt segs (.real (d, Ctx.root))).1) :
    ∃ ss, LocP d n c ss :=
  all_required (P := LocE d) LocE.child (fun h => h.elim fun _ h => h.loc.wf hd) segs (fun s hs => plainKind_notKw (hk s hs))
    (.real (d, Ctx.root)) LocE.root _ h

open Ypv.Acc in
/-- **path_reresolves** (dot notation: what `str(result.path)` returns).  `d` well-formed without twin
keys; `(n, c)` located with path sections `ss`, all expressible (`Sec.ok`), every anchor they name borne
by one child of its parent (`aloneAlong`).  Then the sections ARE the library's
`escape_path_section` / `[i]` / `[&a]` texts; `str()` of the accumulated `YAMLPath` object succeeds;
and its text, parsed with the separator inferred (as `YAMLPath(text)` does) and evaluated from the
document root, selects exactly `n`, once, at the address `c.addr`. -/
theorem path_reresolves {d n : Node} {c : Ctx} {ss : List Sec} (hd : d.WF) (hc : W1.docClear d = true)
    (hl : LocP d n c ss) (hok : ss.all Sec.ok = true) (hal : aloneAlong d c.addr ss = true)
    (mt' : Matcher) (dsc' : Desc) :
    c.path = ss.map Sec.text ∧
    ∃ S sg c', reported c = .ok S ∧ parse true S = .ok sg ∧
      required mt' dsc' d (sg.map ESeg.ofSeg) (.real (d, Ctx.root)) = Gen.one (.real (n, c')) ∧
      c'.addr = c.addr := by
  obtain ⟨h1, S, h2, h3⟩ := reported_steps c ss hl.path.1 (List.all_eq_true.mp hok)
  obtain ⟨c', h4, h5⟩ := resolve_steps mt' dsc' hc hl hal
  exact ⟨h1, S, _, c', h2, h3, by rw [eseg_segs]; exact h4, h5⟩

open Ypv.Acc in
/-- **path_reresolves, either notation**: the same for the text `str(result.path)` returns after
`result.path.separator = FSLASH` (`f = true`) or `= DOT` (`f = false`). -/
theorem path_reresolves_as (f : Bool) {d n : Node} {c : Ctx} {ss : List Sec} (hd : d.WF)
    (hc : W1.docClear d = true) (hl : LocP d n c ss) (hok : ss.all Sec.ok = true)
    (hal : aloneAlong d c.addr ss = true) (mt' : Matcher) (dsc' : Desc) :
    ∃ S sg c', reportedAs f c = .ok S ∧ parse true S = .ok sg ∧
      required mt' dsc' d (sg.map ESeg.ofSeg) (.real (d, Ctx.root)) = Gen.one (.real (n, c')) ∧
      c'.addr = c.addr := by
  obtain ⟨S, h2, h3⟩ := reportedAs_steps f c ss hl.path.1 (List.all_eq_true.mp hok)
  obtain ⟨c', h4, h5⟩ := resolve_steps mt' dsc' hc hl hal
  exact ⟨S, _, c', h2, h3, by rw [eseg_segs]; exact h4, h5⟩

open Ypv.Acc in
/-- **path_reresolves, a path that names the node by an anchor several children bear** ("once per place
it is aliased").  The last step is named `[&a]`; the steps before it satisfy the hypotheses of
`path_reresolves`.  Then `str(result.path)`, parsed and evaluated from the root, selects exactly the
children of the parent that bear the anchor `a`, in document order — and the result's node, at its
address, is one of them. -/
theorem path_reresolves_aliased {d n0 n : Node} {c0 : Ctx} {ss0 : List Sec} {r : Ref} {pr : PRef} {a : Str}
    (hd : d.WF) (hc : W1.docClear d = true) (hl0 : LocP d n0 c0 ss0) (hch : n0.child? r = some n)
    (hp : prefOk n0 pr r) (hs : StepSec n0 n pr (.anc a)) (hok : (ss0 ++ [Sec.anc a]).all Sec.ok = true)
    (hal : aloneAlong d c0.addr ss0 = true) (mt' : Matcher) (dsc' : Desc) :
    ∃ S sg c1 c', reported (c0.child r pr (Sec.anc a).mtext) = .ok S ∧ parse true S = .ok sg ∧
      c1.addr = c0.addr ∧
      required mt' dsc' d (sg.map ESeg.ofSeg) (.real (d, Ctx.root)) =
        Gen.ofList (((anchorKids a n0 c1).filter (fun nc => nc.1.anchor == some a)).map Res.real) ∧
      (n, c') ∈ (anchorKids a n0 c1).filter (fun nc => nc.1.anchor == some a) ∧
      c'.addr = c0.addr ++ [r] := by
  have hl : LocP d n (c0.child r pr (Sec.anc a).mtext) (ss0 ++ [.anc a]) := LocP.child r pr _ n hl0 hch hp hs
  obtain ⟨_, S, h2, h3⟩ := reported_steps _ _ hl.path.1 (List.all_eq_true.mp hok)
  obtain ⟨c1, h4, h5⟩ := resolve_steps_aliased mt' dsc' hc hl0 hal a
  obtain ⟨c', h6, ha, h7⟩ := anchorKid_mem c1 hch hp hs
  exact ⟨S, _, c1, c', h2, h3, h4, by rw [eseg_segs]; exact h5, List.mem_filter.mpr ⟨h6, beq_iff_eq.mpr ha⟩,
    by rw [h7, h4]⟩

open Ypv.Acc in
/-- **path_reresolves for the results of a query**: `str(result.path)` as it is, and after the
separator was set to either notation. -/
theorem path_reresolves_query {d : Node} (hd : d.WF) (hc : W1.docClear d = true) (segs : List ESeg)
    (hk : ∀ s ∈ segs, plainKind s = true) (n : Node) (c : Ctx)
    (h : Res.real (n, c) ∈ (required mt dsc rt segs (.real (d, Ctx.root))).1) :
    ∃ ss : List Sec, c.path = ss.map Sec.mtext ∧ ss.length = c.addr.length ∧
      (ss.all Sec.ok = true → aloneAlong d c.addr ss = true → ∀ (mt' : Matcher) (dsc' : Desc),
        (∃ S sg c', reported c = .ok S ∧ parse true S = .ok sg ∧
          required mt' dsc' d (sg.map ESeg.ofSeg) (.real (d, Ctx.root)) = Gen.one (.real (n, c')) ∧
          c'.addr = c.addr) ∧
        ∀ f : Bool, ∃ S sg c', reportedAs f c = .ok S ∧ parse true S = .ok sg ∧
          required mt' dsc' d (sg.map ESeg.ofSeg) (.real (d, Ctx.root)) = Gen.one (.real (n, c')) ∧
          c'.addr = c.addr) := by
  obtain ⟨ss, hl⟩ := results_pathed (mt := mt) (dsc := dsc) (rt := rt) hd segs hk n c h
  exact ⟨ss, hl.path.1, hl.path.2, fun hok hal mt' dsc' =>
    ⟨(path_reresolves hd hc hl hok hal mt' dsc').2, fun f => path_reresolves_as f hd hc hl hok hal mt' dsc'⟩⟩

open Ypv.Acc in
/-- **path_reresolves with hypotheses on the reported coordinates alone.**  `Sec.ofText` reads the step
back from a section text (`ofText_mtext`), so the excluded classes are decidable predicates of the
result `(n, c)` and the document: every real result of a query on a well-formed document without twin
keys whose path sections denote expressible steps, each named anchor borne by one sibling only, reports
a path whose `str()` — as it is, and in either notation after the separator was set — parses and
evaluates, from the root, to exactly that node at its address. -/
theorem path_reresolves_result {d : Node} (hd : d.WF) (hc : W1.docClear d = true) (segs : List ESeg)
    (hk : ∀ s ∈ segs, plainKind s = true) (n : Node) (c : Ctx)
    (h : Res.real (n, c) ∈ (required mt dsc rt segs (.real (d, Ctx.root))).1)
    (hok : (c.path.map Sec.ofText).all Sec.ok = true)
    (hal : aloneAlong d c.addr (c.path.map Sec.ofText) = true) (mt' : Matcher) (dsc' : Desc) :
    (∃ S sg c', reported c = .ok S ∧ parse true S = .ok sg ∧
      required mt' dsc' d (sg.map ESeg.ofSeg) (.real (d, Ctx.root)) = Gen.one (.real (n, c')) ∧
      c'.addr = c.addr) ∧
    ∀ f : Bool, ∃ S sg c', reportedAs f c = .ok S ∧ parse true S = .ok sg ∧
      required mt' dsc' d (sg.map ESeg.ofSeg) (.real (d, Ctx.root)) = Gen.one (.real (n, c')) ∧
      c'.addr = c.addr := by
  obtain ⟨ss, h1, _, h3⟩ := path_reresolves_query (mt := mt) (dsc := dsc) (rt := rt) hd hc segs hk n c h
  have hss : c.path.map Sec.ofText = ss := by rw [h1, ofText_map]
  rw [hss] at hok hal
  exact h3 hok hal mt' dsc'

open Ypv.Acc in
/-- **`[parent()]` and the reported path — key and index sections.**  The evaluator model's
`ctxUp c 1` (what `KeywordSearches.parent` leaves) drops the last path section; the library pops it
with `YAMLPath.pop()`.  For coordinates whose sections are those of the steps `s0 :: r ++ [s]` (all
expressible) and whose LAST section is not an anchor section, `pop()` on the accumulated object
returns the last segment and leaves exactly the text of the object accumulated for `ctxUp c 1`.
For an anchor section see `pop_anchor_is_ctxUp` below. -/
theorem pop_is_ctxUp (c : Ctx) (s0 : Sec) (r : List Sec) (s : Sec)
    (hpath : c.path = (s0 :: (r ++ [s])).map Sec.mtext)
    (hok : (s0 :: (r ++ [s])).all Sec.ok = true) (hna : s.isAnc = false) :
    C08.popView (accObj c.path) = .ok (s.lseg.seg false, (accObj (ctxUp c 1).path).original) := by
  rw [ctxUp_path hpath, hpath]
  exact pop_section s0 r s (List.all_eq_true.mp hok) hna

open Ypv.Acc in
/-- **`[parent()]` past an anchor section — the former finding C02-K5, repaired by /repo 8d0a378.**  When
the LAST section of the coordinates is an anchor section `[&a]`, `pop()` on the accumulated object
returns the anchor segment and leaves (as the text of the object) the canonical string `S` of the path
accumulated for `ctxUp c 1` — `str()` of the parent's reported path — which parses to the segments
naming the steps before.  (`path_reresolves` says what `S` resolves to.)  Before the repair the text
stayed as it was: the parent was reported under a path that still named the anchor. -/
theorem pop_anchor_is_ctxUp (c : Ctx) (s0 : Sec) (r : List Sec) (a : Str)
    (hpath : c.path = (s0 :: (r ++ [Sec.anc a])).map Sec.mtext)
    (hok : (s0 :: (r ++ [Sec.anc a])).all Sec.ok = true) :
    ∃ S, reported (ctxUp c 1) = .ok S ∧
      C08.popView (accObj c.path) = .ok ((Sec.anc a).lseg.seg false, normOriginal S) ∧
      parse true S = .ok ((s0 :: r).map Sec.seg) := by
  have hok' : ∀ x ∈ s0 :: (r ++ [Sec.anc a]), x.ok = true := List.all_eq_true.mp hok
  refine ⟨_, reported_render (ctxUp c 1) s0 r (ctxUp_path hpath) (ok_init hok'), ?_,
    (render_plain false s0 r (ok_init hok')).1⟩
  rw [hpath]
  exact pop_section_anc s0 r a hok'

/-! ### The hypotheses of `path_reresolves` are met, and each excluded class is a real failure -/

namespace Ex
open Ypv.Acc

/-- `{"a.b [c]": [1, &x {"/k": 2}]}` -/
def inner : Node := .map (some ['x']) [(.str "/k".toList, .scalar none (.int 2))]
def lst : Node := .seq none [.scalar none (.int 1), inner]
def doc : Node := .map none [(.str "a.b [c]".toList, lst)]
def ss : List Sec := [.key "a.b [c]".toList, .anc ['x'], .key "/k".toList]
def c1 : Ctx := Ctx.root.child (.key (.str "a.b [c]".toList)) (.key (.str "a.b [c]".toList)) (Sec.key "a.b [c]".toList).mtext
def c2 : Ctx := c1.child (.idx 1) (.idx 1) (Sec.anc ['x']).mtext
def c3 : Ctx := c2.child (.key (.str "/k".toList)) (.key (.str "/k".toList)) (Sec.key "/k".toList).mtext

/-- a located result three steps deep: a key full of punctuation, an anchored element named
by its anchor, a key starting with `/` -/
theorem located : LocP doc (.scalar none (.int 2)) c3 ss :=
  LocP.child (ss := [.key "a.b [c]".toList, .anc ['x']]) _ _ (.key "/k".toList) _
    (LocP.child (ss := [.key "a.b [c]".toList]) _ _ (.anc ['x']) inner
      (LocP.child (ss := []) _ _ (.key "a.b [c]".toList) lst LocP.root (by decide +kernel) (by simp [doc, prefOk])
        (.key _ _ rfl))
      (by decide +kernel) (by simp [lst, prefOk, inRange, normIdx]) (.ancIdx _ _ rfl))
    (by decide +kernel) (by simp [inner, prefOk]) (.key _ _ rfl)

example : ss.all Sec.ok = true := by decide +kernel
example : aloneAlong doc c3.addr ss = true := by decide +kernel
example : W1.docClear doc = true := by decide +kernel
/-- what `str(result.path)` is for it, and after `separator = FSLASH` -/
example : reported c3 = .ok "a\\.b\\ \\[c\\][&x].\\/k".toList := by decide +kernel
example : reportedAs true c3 = .ok "/a\\.b\\ \\[c\\][&x]/\\/k".toList := by decide +kernel

/-- the hypotheses of `path_reresolves_result` are computed from the coordinates -/
example : c3.path.map Sec.ofText = ss := by decide +kernel
/-- … and the coordinates are those of a query result -/
example : Res.real (.scalar none (.int 2), c3) ∈
    (required (fun _ _ _ => .ok true) Desc.none doc [.key "a.b [c]".toList, .anchor ['x'], .key "/k".toList]
      (.real (doc, Ctx.root))).1 := by decide +kernel

/-- **C07-K6**: two adjacent backslashes — the library's `escape_path_section` copies the pair, the
section reads back as the key `a\b`; excluded by `Sec.ok`. -/
example : Sec.ok (.key ['a', '\\', '\\', 'b']) = false := by decide +kernel
example : escapePathSection '.' ['a', '\\', '\\', 'b'] = ['a', '\\', '\\', 'b'] := by decide +kernel
example : parse true (escapePathSection '.' ['a', '\\', '\\', 'b']) = .ok [(.key, .str ['a', '\\', 'b'])] := by
  decide +kernel
/-- … while a single backslash is escaped and reads back -/
example : parse true (escapePathSection '.' ['a', '\\', 'b']) = .ok [(.key, .str ['a', '\\', 'b'])] := by
  decide +kernel
/-- keys the notation cannot write -/
example : Sec.ok (.key []) = false := by decide +kernel
example : Sec.ok (.key ['a', '*']) = false := by decide +kernel
example : Sec.ok (.key ['&', 'a']) = false := by decide +kernel
example : parse true (escapePathSection '.' ['a', '*']) = .ok [(.search, .search false .startsWith ['.'] ['a'])] := by
  decide +kernel
/-- an anchor borne by two elements: `[&x]` denotes both (`path_reresolves_aliased`) -/
def twins : Node := .seq none [.scalar (some ['x']) (.int 1), .scalar (some ['x']) (.int 1)]
example : aloneAlong twins [.idx 1] [.anc ['x']] = false := by decide +kernel
example : ((required (fun _ _ _ => .ok true) Desc.none twins [.anchor ['x']] (.real (twins, Ctx.root))).1.map
    (fun r => match r with | .real x => x.2.addr | .virt _ => [])) = [[.idx 0], [.idx 1]] := by decide +kernel

end Ex

/-! The excluded key classes, with witnesses: twin keys (`{1: x, '1': y}`: the path `1` finds the
string key), and the keys the notation cannot write. -/
example : W1.docClear (.map none [(.int 1, .scalar none .null), (.str ['1'], .scalar none .null)]) = false := by
  decide +kernel
example : (required (fun _ _ _ => .ok true) Desc.none (.scalar none .null) [.key ['1']]
    (.real (.map none [(.int 1, .scalar none (.int 7)), (.str ['1'], .scalar none (.int 8))], Ctx.root))).1.map
      (fun r => match r with | .real x => x.2.addr | .virt _ => [])
    = [[.key (.str ['1'])]] := by decide +kernel
example : W1.docClear (.set none [.int 1, .str ['1']]) = false := by decide +kernel
example : wfSegs [((.key, .str []) : Seg)] = false := by decide +kernel
example : wfSegs [((.key, .str ['a', '*']) : Seg)] = false := by decide +kernel
example : wfSegs [((.key, .str ['&', 'a']) : Seg)] = false := by decide +kernel
/-- … and the hypotheses are met by keys full of punctuation. -/
example : wfSegs [((.key, .str "a.b [c]".toList) : Seg), (.index, .int (-1))] = true := by decide +kernel
example : W1.docClear (.map none [(.int 1, .seq none [.scalar none .null]), (.str ['a'], .set none [.int 1, .str ['2']])]) = true := by
  decide +kernel

/-- The hypotheses are met: a well-formed document and a located result at depth 2. -/
example : (Node.map none [(.str ['a'], .seq none [.scalar none (.int 1)])]).WF := by
  simp [Node.WF, WFEntries, WFList]

end Ypv.C02
