import Ypv.Model.Cli
/-!
# Lemmas about the command-line tool models (C16)
-/
namespace Ypv.Cli.Lemmas
open Ypv Ypv.Cli

/-! ## Argument validation

Every `validateargs` is an append of `when c e`: its list is non-empty exactly when one of the
conditions holds, which `append_ne_nil` and `when_ne_nil` say without looking at the arguments. -/

theorem when_ne_nil {α : Type} (c : Bool) (e : α) : when c e ≠ [] ↔ c = true := by
  cases c <;> simp [when]

theorem append_ne_nil {α : Type} (l₁ l₂ : List α) : l₁ ++ l₂ ≠ [] ↔ l₁ ≠ [] ∨ l₂ ≠ [] := by
  cases l₁ <;> simp

theorem inStream_iff (file : Option FileArg) (nostdin tty : Bool) :
    inStream file nostdin tty = true ↔ file = some .dash ∨ (file = none ∧ nostdin = false ∧ tty = false) := by
  cases file with
  | none => cases nostdin <;> cases tty <;> simp [inStream]
  | some f => cases f <;> simp [inStream]

/-- yaml-get / yaml-set: nothing to read. -/
theorem noInput_iff (file : Option FileArg) (nostdin tty : Bool) :
    (!(file.isSome || inStream file nostdin tty)) = true ↔ file = none ∧ (nostdin = true ∨ tty = true) := by
  cases file <;> simp [inStream]

theorem manyDash_pair (l r : FileArg) : manyDash [l, r] = true ↔ l = .dash ∧ r = .dash := by
  cases l <;> cases r <;> decide

/-! ## yaml-get -/

theorem get_of_matched {ev : Node → Query} {a : GetArgs} {tty : Bool} {d : Node}
    (hv : getErrors a tty = []) (he : (ev d).err = none) (hn : (ev d).nodes ≠ []) :
    get ev a tty (some d) = ⟨(ev d).nodes.map render, 0⟩ := by
  simp [get, hv, he, hn]

theorem get_cases (ev : Node → Query) (a : GetArgs) (tty : Bool) (ld : Option Node) :
    (getErrors a tty = [] ∧ ∃ d, ld = some d ∧ (ev d).err = none ∧ (ev d).nodes ≠ [])
    ∨ ((get ev a tty ld).exit ≠ 0 ∧ (get ev a tty ld).out = []) := by
  unfold get
  by_cases hv : getErrors a tty = []
  · rw [if_neg (not_not_intro hv)]
    cases ld with
    | none => exact .inr ⟨Nat.succ_ne_zero _, rfl⟩
    | some d =>
      dsimp only
      cases he : (ev d).err with
      | some e => cases e <;> exact .inr ⟨Nat.succ_ne_zero _, rfl⟩
      | none =>
        cases hn : (ev d).nodes with
        | nil => exact .inr ⟨Nat.succ_ne_zero _, rfl⟩
        | cons x xs => exact .inl ⟨hv, d, rfl, he, by rw [hn]; exact List.cons_ne_nil x xs⟩
  · rw [if_pos hv]; exact .inr ⟨Nat.succ_ne_zero _, rfl⟩

/-- The arguments matter to yaml-get only through their validation. -/
theorem get_congr (ev : Node → Query) {a a' : GetArgs} {tty tty' : Bool} (ld : Option Node)
    (h : getErrors a tty = getErrors a' tty') : get ev a tty ld = get ev a' tty' ld := by
  unfold get
  rw [h]

/-! ## yaml-diff -/

theorem diff_cases {E : Type} (isSame : E → Bool) (differ : Node → Node → Option (List E)) (a : DiffArgs)
    (l r : Option (List Node)) :
    (diffErrors a = [] ∧ ∃ ls rs ld rd rep, l = some ls ∧ r = some rs ∧ pickDoc ls a.lidx = .doc ld
        ∧ pickDoc rs a.ridx = .doc rd ∧ differ ld rd = some rep)
    ∨ diff isSame differ a l r = none ∨ diff isSame differ a l r = some ⟨[], 1⟩ := by
  unfold diff
  by_cases hv : diffErrors a = []
  · rw [if_neg (not_not_intro hv)]
    match l, r with
    | none, _ => exact .inr (.inr rfl)
    | some _, none => exact .inr (.inr rfl)
    | some ls, some rs =>
      dsimp only
      cases hl : pickDoc ls a.lidx with
      | exit1 => exact .inr (.inr rfl)
      | crash => exact .inr (.inl rfl)
      | doc ld =>
        dsimp only
        cases hr : pickDoc rs a.ridx with
        | exit1 => exact .inr (.inr rfl)
        | crash => exact .inr (.inl rfl)
        | doc rd =>
          dsimp only
          cases hd : differ ld rd with
          | none => exact .inr (.inr rfl)
          | some rep => exact .inl ⟨hv, ls, rs, ld, rd, rep, rfl, rfl, hl, hr, hd⟩
  · exact .inr (.inr (if_pos hv))

/-! ## yaml-validate -/

theorem valFileState_eq_zero (flags : List Bool) : valFileState flags = 0 ↔ ∀ b ∈ flags, b = true := by
  simp [valFileState]

theorem valFileState_cases (flags : List Bool) : valFileState flags = 0 ∨ valFileState flags = 2 := by
  unfold valFileState
  cases flags.all id
  · exact .inr rfl
  · exact .inl rfl

/-- The state after the loop over the files is that of one stream holding all their documents. -/
theorem valLoop_snd (a : ValArgs) (fi : Nat) (loads : List (List Bool)) :
    (valLoop a fi loads).2 = valFileState loads.flatten := by
  induction loads generalizing fi with
  | nil => rfl
  | cons f rest ih =>
    simp only [valLoop, ih, List.flatten_cons, valFileState, List.all_append]
    cases f.all id <;> cases rest.flatten.all id <;> rfl

theorem validate_exit_eq (a : ValArgs) (tty : Bool) (loads : List (List Bool)) (stdin : List Bool)
    (hv : valErrors a tty = []) :
    (validate a tty loads stdin).exit
      = valFileState (loads.flatten ++ if implicitStdin a.files a.nostdin tty then stdin else []) := by
  unfold validate
  rw [if_neg (not_not_intro hv)]
  dsimp only
  rw [valLoop_snd]
  unfold valFileState
  rw [List.all_append]
  cases implicitStdin a.files a.nostdin tty <;> cases loads.flatten.all id <;> simp

/-! ## yaml-set -/

/-- The ways a run of yaml-set on a loaded document ends when it stays within the model. -/
theorem setRun_cases {a : SetArgs} {d : Node} {g : Gather} {segs : Option (List PSeg)} {o : SetOut}
    (h : setRun a d g segs = some o) :
    o = .fail 1 ∨ o = .fail 20
    ∨ ∃ d', (a.src = .none ∧ d' = d ∨ ∃ op, setOp a g segs = some op ∧ op.apply d = .ok d')
        ∧ o = ⟨0, some (setDest a, d'), if a.backup then some d else none⟩ := by
  -- `if`s are taken with `by_cases` and `rw`: `split` on the whole chain is far dearer
  unfold setRun at h
  by_cases h1 : (g.failed && mustExist a) = true
  · rw [if_pos h1] at h; exact .inl (Option.some.inj h).symm
  rw [if_neg h1] at h
  extract_lets addrs at h
  split at h
  · exact .inr (.inl (Option.some.inj h).symm)
  by_cases h2 : savetoSet a = true
  · rw [if_pos h2] at h
    split at h
    · exact .inl (Option.some.inj h).symm
    · cases h
  rw [if_neg h2] at h
  by_cases h3 : (a.src == .none && !a.tag && !a.eyamlcrypt) = true
  · rw [if_pos h3] at h
    simp only [Bool.and_eq_true, beq_iff_eq] at h3
    exact .inr (.inr ⟨d, .inl ⟨h3.1.1, rfl⟩, (Option.some.inj h).symm⟩)
  rw [if_neg h3] at h
  cases hop : setOp a g segs with
  | none => rw [hop] at h; cases h
  | some op =>
    rw [hop] at h
    dsimp only at h
    cases hd' : op.apply d with
    | error e =>
      rw [hd'] at h
      cases e with
      | outOfModel => cases h
      | _ => exact .inl (Option.some.inj h).symm
    | ok d' =>
      rw [hd'] at h
      exact .inr (.inr ⟨d', .inr ⟨op, rfl, hd'⟩, (Option.some.inj h).symm⟩)

/-! ## yaml-paths -/

section
variable (valid : Str → Bool) (find : Node → Str → List Str)

/-- "Record only unique results", one result at a time. -/
def push (acc : List Hit) (h : Hit) : List Hit := if acc.any (·.2 == h.2) then acc else acc ++ [h]

theorem foldl_push (hs acc : List Hit) (hn : (acc.map (·.2)).Nodup) :
    (∀ h ∈ hs.foldl push acc, h ∈ acc ∨ h ∈ hs)
    ∧ ((hs.foldl push acc).map (·.2)).Nodup
    ∧ (∀ h ∈ acc, h ∈ hs.foldl push acc)
    ∧ (∀ h ∈ hs, h.2 ∈ (hs.foldl push acc).map (·.2)) := by
  induction hs generalizing acc with
  | nil => exact ⟨fun _ h => .inl h, hn, fun _ h => h, nofun⟩
  | cons x xs ih =>
    rw [List.foldl_cons]
    by_cases hc : acc.any (·.2 == x.2) = true
    · obtain ⟨i1, i2, i3, i4⟩ := ih acc hn
      rw [show push acc x = acc from if_pos hc]
      refine ⟨fun h hm => (i1 h hm).imp_right (List.mem_cons_of_mem _), i2, i3, fun h hm => ?_⟩
      rcases List.mem_cons.mp hm with rfl | hm
      · obtain ⟨y, hy, hy2⟩ := List.any_eq_true.mp hc
        exact List.mem_map.mpr ⟨y, i3 y hy, eq_of_beq hy2⟩
      · exact i4 h hm
    · have hn' : ((acc ++ [x]).map (·.2)).Nodup := by
        rw [List.map_append, List.nodup_append]
        refine ⟨hn, List.nodup_cons.mpr ⟨nofun, .nil⟩, fun a ha b hb hab => hc ?_⟩
        obtain ⟨y, hy, rfl⟩ := List.mem_map.mp ha
        exact List.any_eq_true.mpr ⟨y, hy, beq_iff_eq.mpr (hab.trans (List.mem_singleton.mp hb))⟩
      obtain ⟨i1, i2, i3, i4⟩ := ih (acc ++ [x]) hn'
      rw [show push acc x = acc ++ [x] from if_neg hc]
      refine ⟨fun h hm => ?_, i2, fun h hm => i3 h (List.mem_append_left _ hm), fun h hm => ?_⟩
      · rcases i1 h hm with h1 | h1
        · exact (List.mem_append.mp h1).imp_right fun h2 => List.mem_cons.mpr (.inl (List.mem_singleton.mp h2))
        · exact .inr (List.mem_cons_of_mem _ h1)
      · rcases List.mem_cons.mp hm with rfl | hm
        · exact List.mem_map_of_mem (i3 h (List.mem_append_right _ List.mem_cons_self))
        · exact i4 h hm

theorem addHits_eq (e : Str) (ps : List Str) (acc : List Hit) :
    addHits e ps acc = (ps.map fun p => (e, p)).foldl push acc := by
  induction ps generalizing acc with
  | nil => rfl
  | cons p ps ih => exact ih _

/-- What the accepted search expressions find, in the order the loop meets it. -/
def cands (d : Node) (es : List Str) : List Hit :=
  (es.filter valid).flatMap fun e => (find d e).map fun p => (e, p)

theorem mem_cands (d : Node) (es : List Str) (h : Hit) :
    h ∈ cands valid find d es ↔ h.1 ∈ es ∧ valid h.1 = true ∧ h.2 ∈ find d h.1 := by
  simp only [cands, List.mem_flatMap, List.mem_filter, List.mem_map]
  constructor
  · rintro ⟨e, ⟨he, hv⟩, p, hp, rfl⟩
    exact ⟨he, hv, hp⟩
  · rintro ⟨he, hv, hp⟩
    exact ⟨h.1, ⟨he, hv⟩, h.2, hp, rfl⟩

theorem searchLoop_fst (d : Node) (es : List Str) (acc : List Hit) (bad : Bool) :
    (searchLoop valid find d es acc bad).1 = (cands valid find d es).foldl push acc := by
  induction es generalizing acc bad with
  | nil => rfl
  | cons e es ih =>
    cases hv : valid e
    · simp only [searchLoop, hv, Bool.false_eq_true, ↓reduceIte, ih, cands, List.filter_cons]
    · simp only [searchLoop, hv, ↓reduceIte, ih, addHits_eq, cands, List.filter_cons, List.flatMap_cons,
        List.foldl_append]

/-- The rejection flag of the search loop does not depend on what is found. -/
theorem searchLoop_snd (d : Node) (es : List Str) (acc : List Hit) (bad : Bool) :
    (searchLoop valid find d es acc bad).2 = (bad || es.any (fun e => !valid e)) := by
  induction es generalizing acc bad with
  | nil => simp [searchLoop]
  | cons e es ih => cases hv : valid e <;> simp [searchLoop, hv, ih]

/-- Among hits with distinct paths, removing the first hit of a path removes the path. -/
theorem eraseP_eq_filter (acc : List Hit) (p : Str) (hn : (acc.map (·.2)).Nodup) :
    acc.eraseP (·.2 == p) = acc.filter (·.2 != p) := by
  induction acc with
  | nil => rfl
  | cons x xs ih =>
    rw [List.map_cons, List.nodup_cons] at hn
    by_cases hx : x.2 = p
    · have : xs.filter (·.2 != p) = xs :=
        List.filter_eq_self.mpr fun y hy => bne_iff_ne.mpr fun e => hn.1 (hx ▸ e ▸ List.mem_map_of_mem hy)
      simp [hx, this]
    · simp [hx, ih hn.2]

theorem dropHits_eq_filter (ps : List Str) (acc : List Hit) (hn : (acc.map (·.2)).Nodup) :
    dropHits ps acc = acc.filter (fun h => !ps.contains h.2) := by
  induction ps generalizing acc with
  | nil => exact (List.filter_eq_self.mpr fun _ _ => rfl).symm
  | cons p ps ih =>
    rw [dropHits, eraseP_eq_filter acc p hn, ih _ ((List.filter_sublist.map _).nodup hn), List.filter_filter]
    congr 1
    funext h
    rw [List.contains_cons, Bool.not_or]
    exact Bool.and_comm _ _

/-- The except loop keeps, in order, the hits whose path no accepted expression finds. -/
theorem exceptLoop_fst (d : Node) (es : List Str) (acc : List Hit) (bad : Bool)
    (hn : (acc.map (·.2)).Nodup) :
    (exceptLoop valid find d es acc bad).1
      = acc.filter (fun h => !es.any (fun x => valid x && (find d x).contains h.2)) := by
  induction es generalizing acc bad with
  | nil => exact (List.filter_eq_self.mpr fun _ _ => rfl).symm
  | cons e es ih =>
    cases hv : valid e
    · simp only [exceptLoop, hv, Bool.false_eq_true, ↓reduceIte, ih acc true hn, List.any_cons, Bool.false_and,
        Bool.false_or]
    · simp only [exceptLoop, hv, ↓reduceIte, dropHits_eq_filter _ acc hn,
        ih _ bad ((List.filter_sublist.map _).nodup hn), List.filter_filter, List.any_cons, Bool.true_and,
        Bool.not_or, Bool.and_comm]

theorem exceptLoop_snd (d : Node) (es : List Str) (acc : List Hit) (bad : Bool) :
    (exceptLoop valid find d es acc bad).2 = (bad || es.any (fun e => !valid e)) := by
  induction es generalizing acc bad with
  | nil => simp [exceptLoop]
  | cons e es ih => cases hv : valid e <;> simp [exceptLoop, hv, ih]

/-- The hits of one document: the candidates, each path once, that no accepted except expression
finds.  The tool's test for "nothing found" does not show: filtering nothing leaves nothing. -/
theorem pathsDoc_fst (a : PathsArgs) (d : Node) :
    (pathsDoc valid find a d).1
      = ((cands valid find d a.search).foldl push []).filter
          fun h => !a.exc.any fun x => valid x && (find d x).contains h.2 := by
  have hn := (foldl_push (cands valid find d a.search) [] .nil).2.1
  rw [← searchLoop_fst valid find d a.search [] false] at hn ⊢
  unfold pathsDoc
  generalize searchLoop valid find d a.search [] false = s at hn ⊢
  obtain ⟨hits, bad⟩ := s
  cases hits with
  | nil => rfl
  | cons h hs => exact exceptLoop_fst valid find d a.exc _ false hn

theorem mem_pathsDoc (a : PathsArgs) (d : Node) (h : Hit) :
    h ∈ (pathsDoc valid find a d).1 ↔
      h ∈ (cands valid find d a.search).foldl push [] ∧ ∀ x ∈ a.exc, valid x = true → h.2 ∉ find d x := by
  rw [pathsDoc_fst, List.mem_filter]
  simp

theorem pathsDoc_snd (a : PathsArgs) (d : Node) (hs : ∀ e ∈ a.search, valid e = true)
    (hx : ∀ e ∈ a.exc, valid e = true) : (pathsDoc valid find a d).2 = none := by
  have h1 : (a.search.any fun e => !valid e) = false := by simpa using hs
  have h2 : (a.exc.any fun e => !valid e) = false := by simpa using hx
  unfold pathsDoc
  dsimp only
  rw [searchLoop_snd, exceptLoop_snd, h1, h2]
  cases (searchLoop valid find d a.search [] false).1.isEmpty <;> rfl

/-- The lines of one input whose documents all loaded: per document, in stream order, its hits tagged
with the input's position and the document index. -/
def fileLines (a : PathsArgs) (fi : Nat) : Nat → List Node → List PLine
  | _, [] => []
  | i, d :: ds => (pathsDoc valid find a d).1.map (fun h => (fi, i, h)) ++ fileLines a fi (i + 1) ds
end

/-! ## yaml-merge -/

open Ypv.MultiDoc in
section
variable {ε : Type} (m : Node → Node → Except ε Node) (cls : ε → Cls)

theorem across_nonempty (l : Node) (ls rs : List Node) (o : Out) (h : across m cls (l :: ls) rs = .ok o) :
    o.docs ≠ [] := by
  cases rs with
  | nil => simp [across] at h; subst h; simp
  | cons r rs =>
    simp only [across] at h
    split at h
    · split at h
      · cases h; simp
      · cases h
    · split at h
      · cases h; simp
      · cases h

theorem matrix_nonempty (rhs : List Node) (l : Node) (ls : List Node) (st : Nat) (o : Out)
    (h : matrix m cls rhs (l :: ls) st = .ok o) : o.docs ≠ [] := by
  simp only [matrix] at h
  split at h
  · cases h
  · split at h
    · cases h
    · cases h; simp

theorem mergeDocs_nonempty (mode : Mode) (lhs : List Node) (rhs : Option (List Node)) (o : Out)
    (hl : lhs ≠ []) (h : mergeDocs m cls mode lhs rhs = some (.ok o)) : o.docs ≠ [] := by
  cases lhs with
  | nil => exact absurd rfl hl
  | cons l ls =>
    cases rhs with
    | none => simp [mergeDocs] at h; subst h; simp
    | some rs =>
      cases mode with
      | condenseAll =>
        simp only [mergeDocs, condenseAll] at h
        split at h
        · cases h
        · split at h
          · cases h
          · simp only [Option.some.injEq, Except.ok.injEq] at h; subst h; simp
      | mergeAcross =>
        simp only [mergeDocs, Option.some.injEq] at h
        exact across_nonempty m cls l ls rs o h
      | matrixMerge =>
        simp only [mergeDocs, Option.some.injEq] at h
        exact matrix_nonempty m cls rs l ls 0 o h

/-- Past the first stream, the tool's file loop followed by its finish is `MultiDoc.fileLoop`: the
count only tells `mergeFinish` whether anything was merged, and the documents never run out. -/
theorem mergeFiles_fileLoop (mode : Mode) (files : List (List Node)) (docs : List Node) (n : Nat)
    (hd : docs ≠ []) (hn : files = [] → n ≠ 0) :
    (match mergeFiles m cls mode (files.map some) docs n with
      | none => none
      | some (.error e) => some (.error e)
      | some (.ok (o, k)) => mergeFinish m cls mode o k) = fileLoop m cls mode files docs := by
  induction files generalizing docs n with
  | nil => simp [fileLoop, mergeFiles, mergeFinish, hd, hn rfl]
  | cons f rest ih =>
    simp only [fileLoop, List.map_cons, mergeFiles, List.isEmpty_eq_false_iff.mpr hd, Bool.false_eq_true, ↓reduceIte]
    cases hmd : mergeDocs m cls mode docs (some f) with
    | none => rfl
    | some r =>
      cases r with
      | error e => rfl
      | ok o =>
        dsimp only
        by_cases hs : o.state = 0
        · rw [if_pos hs, if_pos hs]
          exact ih o.docs (n + 1) (mergeDocs_nonempty m cls mode docs (some f) o hd hmd) (fun _ => Nat.succ_ne_zero n)
        · rw [if_neg hs, if_neg hs]
          simp [mergeFinish, hs]

/-- With every input loaded and a first input that holds at least one document, the tool's file loop
is `MultiDoc.mainRun` (the model C18's theorems are about). -/
theorem mergeStreams_eq_mainRun (mode : Mode) (f0 : List Node) (rest : List (List Node)) (h0 : f0 ≠ []) :
    mergeStreams m cls mode ((f0 :: rest).map some) = mainRun m cls mode (f0 :: rest) := by
  unfold mergeStreams
  -- the first stream becomes the left-hand side by evaluation
  cases rest with
  | nil =>
    simp only [List.map_cons, List.map_nil, mergeFiles, List.isEmpty_nil, mergeFinish, ne_eq, not_true_eq_false,
      ↓reduceIte, decide_true, Bool.true_and, beq_iff_eq, List.isEmpty_eq_false_iff.mpr h0, Bool.false_eq_true,
      mainRun]
  | cons r rs => exact mergeFiles_fileLoop m cls mode (r :: rs) f0 0 h0 nofun
end

end Ypv.Cli.Lemmas
