import Ypv.Lemmas.ParserSim
import Ypv.Model.Render
/-!
# The library's stringifier (`Model/Render.lean`) on unescaped segments, as a re-writing of tokens

`render fslash (ls.map (LSeg.seg false))` is the text of `remarkFrom sep' false ls` (`sep'` the
separator `fslash` selects; `render_eq`): the tokens of key and
anchor texts get the escapes `ensure_escaped` adds for the target separator, everything else is copied,
and a first anchor is written `&name`.
-/
namespace Ypv.Sim
open Ypv

/-! ## `ensure_escaped` on token texts -/

def noBareBackslash (ts : List Tok) : Prop := ∀ t ∈ ts, t.1 = true ∨ t.2 ≠ '\\'

def mark (sym : Char) (t : Tok) : Tok := (t.1 || t.2 == sym, t.2)

theorem esc1_cons_bare (sym c : Char) (t : Str) (hc : c ≠ '\\') :
    esc1 sym (c :: t) = (if c = sym then ['\\', c] else [c]) ++ esc1 sym t := by
  cases t with
  | nil => simp [esc1]
  | cons b r =>
    by_cases h : c = sym
    · subst h; simp [esc1, hc]
    · simp [esc1, hc, h]

theorem esc1_cons_esc (sym c : Char) (t : Str) (hs : sym ≠ '\\') :
    esc1 sym ('\\' :: c :: t) = '\\' :: c :: esc1 sym t := by
  simp [esc1, hs]

theorem esc1_tokText (sym : Char) (hs : sym ≠ '\\') (ts : List Tok) (h : noBareBackslash ts) :
    esc1 sym (tokText ts) = tokText (ts.map (mark sym)) := by
  induction ts with
  | nil => simp [tokText, esc1]
  | cons t ts ih =>
    have ih' := ih (fun u hu => h u (by simp [hu]))
    obtain ⟨e, c⟩ := t
    have ht : tokText ((e, c) :: ts) = Tok.text (e, c) ++ tokText ts := by simp [tokText]
    have hm : tokText (((e, c) :: ts).map (mark sym)) =
        Tok.text (mark sym (e, c)) ++ tokText (ts.map (mark sym)) := by simp [tokText]
    rw [ht, hm, ← ih']
    cases e with
    | true => simp [Tok.text, mark, esc1_cons_esc sym c _ hs]
    | false =>
      have hc : c ≠ '\\' := by
        rcases h (false, c) (by simp) with h1 | h1
        · cases h1
        · exact h1
      simp only [Tok.text, Bool.false_eq_true, ↓reduceIte, List.cons_append, List.nil_append,
        esc1_cons_bare sym c _ hc, mark, Bool.false_or, beq_iff_eq]

theorem noBare_mark (sym : Char) {ts : List Tok} (h : noBareBackslash ts) :
    noBareBackslash (ts.map (mark sym)) := by
  intro t ht
  simp only [List.mem_map] at ht
  obtain ⟨u, hu, rfl⟩ := ht
  rcases h u hu with h1 | h1
  · left; simp [mark, h1]
  · right; exact h1

def markAll (syms : List Char) (t : Tok) : Tok := (t.1 || syms.contains t.2, t.2)

theorem ensureEscaped_tokText (syms : List Char) (hs : '\\' ∉ syms) :
    ∀ (ts : List Tok), noBareBackslash ts →
    ensureEscaped syms (tokText ts) = tokText (ts.map (markAll syms)) := by
  induction syms with
  | nil =>
    intro ts _
    have : ts.map (markAll []) = ts := by
      rw [List.map_congr_left (g := id)]
      · simp
      · intro t _; simp [markAll]
    simp [ensureEscaped, this]
  | cons s r ih =>
    intro ts h
    have hs1 : s ≠ '\\' := fun h0 => hs (by simp [h0])
    have hr : '\\' ∉ r := fun h0 => hs (by simp [h0])
    have : ensureEscaped (s :: r) (tokText ts) = ensureEscaped r (esc1 s (tokText ts)) := by
      simp [ensureEscaped]
    rw [this, esc1_tokText s hs1 ts h, ih hr _ (noBare_mark s h), List.map_map]
    congr 1
    apply List.map_congr_left
    intro t _
    simp only [Function.comp, markAll, mark, List.contains_cons, Bool.or_assoc]

/-- the re-escaping of a key / anchor text for the separator `sep` -/
def remarkT (sep : Char) (ts : List Tok) : List Tok := ts.map (markAll (keySyms sep))

theorem keySyms_nobs {sep : Char} (hsep : sep = '.' ∨ sep = '/') : '\\' ∉ keySyms sep := by
  rcases hsep with rfl | rfl <;> decide

theorem ensureEscaped_key {sep : Char} (hsep : sep = '.' ∨ sep = '/') (ts : List Tok)
    (h : noBareBackslash ts) :
    ensureEscaped (keySyms sep) (tokText ts) = tokText (remarkT sep ts) :=
  ensureEscaped_tokText _ (keySyms_nobs hsep) ts h

theorem tokChars_remarkT (sep : Char) (ts : List Tok) : tokChars (remarkT sep ts) = tokChars ts := by
  simp [tokChars, remarkT, markAll, Function.comp_def]

theorem remarkT_idem (sep : Char) (ts : List Tok) : remarkT sep (remarkT sep ts) = remarkT sep ts := by
  simp only [remarkT, List.map_map]
  apply List.map_congr_left
  intro t _
  simp [markAll]

/-! ## the blank-escaping of `SearchTerms.__str__` -/

theorem splitEsc1_cons_ne (sym c : Char) (t : Str) (hc : c ≠ sym) (ht : t.head? ≠ some sym) :
    splitEsc1 sym (c :: t) = c :: splitEsc1 sym t := by
  cases t with
  | nil => simp [splitEsc1, hc]
  | cons b r =>
    have hb : b ≠ sym := by simpa using ht
    simp [splitEsc1, hc, hb]

theorem tokText_head {sym : Char} (hs : sym ≠ '\\') {ts : List Tok}
    (h : ∀ t ∈ ts, t.1 = true ∨ t.2 ≠ sym) : (tokText ts).head? ≠ some sym := by
  cases ts with
  | nil => simp [tokText]
  | cons t ts =>
    obtain ⟨e, c⟩ := t
    cases e with
    | true => simpa [tokText, Tok.text] using hs.symm
    | false =>
      rcases h (false, c) (by simp) with h1 | h1
      · cases h1
      · simpa [tokText, Tok.text] using h1

theorem splitEsc1_tokText (sym : Char) (hs : sym ≠ '\\') (ts : List Tok)
    (h : ∀ t ∈ ts, t.1 = true ∨ t.2 ≠ sym) : splitEsc1 sym (tokText ts) = tokText ts := by
  induction ts with
  | nil => simp [tokText, splitEsc1]
  | cons t ts ih =>
    have h' : ∀ t ∈ ts, t.1 = true ∨ t.2 ≠ sym := fun u hu => h u (by simp [hu])
    have ih' := ih h'
    have hh := tokText_head hs h'
    obtain ⟨e, c⟩ := t
    have ht : tokText ((e, c) :: ts) = Tok.text (e, c) ++ tokText ts := by simp [tokText]
    rw [ht]
    cases e with
    | true =>
      simp only [Tok.text, ↓reduceIte, List.cons_append, List.nil_append]
      by_cases hc : c = sym
      · subst hc
        simp [splitEsc1, ih']
      · rw [splitEsc1_cons_ne sym '\\' _ hs.symm (by simpa using hc),
          splitEsc1_cons_ne sym c _ hc hh, ih']
    | false =>
      have hc : c ≠ sym := by
        rcases h (false, c) (by simp) with h1 | h1
        · cases h1
        · exact h1
      simp only [Tok.text, Bool.false_eq_true, ↓reduceIte, List.cons_append, List.nil_append]
      rw [splitEsc1_cons_ne sym c _ hc hh, ih']

/-! ## One segment -/

/-- what the stringifier does to the way a segment is written; `addSep = false`: first position -/
def remark1 (sep : Char) (addSep : Bool) : LSeg → LSeg
  | .key ts => .key (remarkT sep ts)
  | .anchor _ ts => .anchor (!addSep) (remarkT sep ts)
  | l => l

/-- what the stringifier needs beyond what the parser needs: an anchor name without `*` (written
bare in first position), and the regular expression written between the stringifier's delimiter -/
def RenderOK : LSeg → Prop
  | .anchor _ ts => '*' ∉ tokChars ts
  | .regex _ _ d term => regexDelim term = some d
  | _ => True

theorem noBare_of_allBare {sep : Char} {stk : List Char} {ts : List Tok} (h : allBare sep stk ts) :
    noBareBackslash ts ∧ ∀ t ∈ ts, t.1 = true ∨ t.2 ≠ ' ' := by
  constructor
  · intro t ht
    rcases h t ht with h1 | h1
    · exact Or.inl h1
    · exact Or.inr (hard_cases h1.nh).1
  · intro t ht
    rcases h t ht with h1 | h1
    · exact Or.inl h1
    · exact Or.inr (hard_cases h1.nh).2.2.2.2.2.1

theorem render_seg {sep sep' : Char} (hsep' : sep' = '.' ∨ sep' = '/') {ac : Bool} (addSep : Bool)
    (l : LSeg) (hwf : l.WF sep ac) (hr : RenderOK l) :
    renderSeg sep' addSep (l.seg false) = (remark1 sep' addSep l).text sep' addSep := by
  cases l with
  | key ts =>
    exact congrArg (sepIf sep' addSep ++ ·) (ensureEscaped_key hsep' ts (noBare_of_allBare hwf.2.2.2.1).1)
  | matchAll | traverse | index _ | slice _ => rfl
  | anchor top ts =>
    have hb : noBareBackslash ts := by
      cases top
      · exact (noBare_of_allBare hwf.2).1
      · exact (noBare_of_allBare hwf.2.2.1).1
    cases addSep
    · exact congrArg ('&' :: ·) (ensureEscaped_key hsep' ts hb)
    · exact congrArg (fun n => '[' :: '&' :: (n ++ [']'])) (ensureEscaped_key hsep' ts hb)
  | search inv m attr term =>
    simp [LSeg.seg, renderSeg, searchStr, remark1, LSeg.text, tokView, hwf.1, invText,
      splitEsc1_tokText ' ' (by decide) term (noBare_of_allBare hwf.2.2.2.2.1).2]
  | regex inv attr d term =>
    have hd : regexDelim term = some d := hr
    simp [LSeg.seg, renderSeg, searchStr, remark1, LSeg.text, tokView, hd, invText]
  | keyword inv kw ps =>
    simp [LSeg.seg, renderSeg, attrsStr, keywordStr, remark1, LSeg.text, tokView, invText]
  | collector e op =>
    simp [LSeg.seg, renderSeg, attrsStr, collectorStr, remark1, LSeg.text, tokView]

/-- under a demarcation the separator means nothing -/
theorem Bare.of_ne {sep sep' c : Char} {stk : List Char} (hstk : stk ≠ []) (h : Bare sep stk c) :
    Bare sep' stk c :=
  ⟨h.nh, fun h0 => absurd h0 hstk, h.op⟩

theorem allBare_sep {sep sep' : Char} {stk : List Char} (hstk : stk ≠ []) {ts : List Tok}
    (h : allBare sep stk ts) : allBare sep' stk ts :=
  fun t ht => (h t ht).imp_right (Bare.of_ne hstk)

/-- re-marked tokens: those still bare are not key symbols -/
theorem allBare_remarkT {sep sep' : Char} {stk stk' : List Char} {ts : List Tok} (h : allBare sep stk ts)
    (hc : ∀ c, Bare sep stk c → c ∉ keySyms sep' → Bare sep' stk' c) :
    allBare sep' stk' (remarkT sep' ts) := by
  intro t ht
  obtain ⟨u, hu, rfl⟩ := List.mem_map.mp ht
  rcases h u hu with h1 | h1
  · left; simp [markAll, h1]
  · by_cases hk : u.2 ∈ keySyms sep'
    · left; simp [markAll, hk]
    · exact Or.inr (hc u.2 h1 hk)

theorem allBare_remark_top {sep sep' : Char} {stk : List Char} {ts : List Tok}
    (h : allBare sep stk ts) : allBare sep' [] (remarkT sep' ts) :=
  allBare_remarkT h fun _ hb hk => ⟨hb.nh, fun _ hc => hk (by simp [keySyms, hc]), by simp⟩

theorem head_remarkT {sep : Char} {ts : List Tok} {P : Char → Prop}
    (h : ∀ t ∈ ts.head?, t.1 = true ∨ P t.2) : ∀ t ∈ (remarkT sep ts).head?, t.1 = true ∨ P t.2 := by
  cases ts with
  | nil => simp [remarkT]
  | cons u us =>
    intro t ht
    simp [remarkT] at ht
    subst ht
    rcases h u (by simp) with h1 | h1
    · left; simp [markAll, h1]
    · right; exact h1

theorem remark1_wf {sep sep' : Char} {ac : Bool} (addSep : Bool) (l : LSeg) (hwf : l.WF sep ac)
    (hr : RenderOK l)
    (h1 : addSep = false → ac = true → ∀ top ts, l = .anchor top ts →
      ∀ t ∈ ts.head?, t.1 = true ∨ (t.2 ≠ '+' ∧ t.2 ≠ '-' ∧ t.2 ≠ '&'))
    (h2 : addSep = true → l.isTop = false) :
    (remark1 sep' addSep l).WF sep' ac := by
  cases l with
  | key ts =>
    obtain ⟨hne, hamp, hpm, hb, hstar⟩ := hwf
    exact ⟨by simpa [remarkT] using hne, head_remarkT (P := fun c => c ≠ '&') hamp,
      fun ha => head_remarkT (P := fun c => c ≠ '+' ∧ c ≠ '-') (hpm ha),
      allBare_remark_top hb, (tokChars_remarkT sep' ts).symm ▸ hstar⟩
  | matchAll | traverse | index _ => trivial
  | slice sl => exact hwf
  | anchor top ts =>
    have hts : ts ≠ [] ∧ ∃ stk, allBare sep stk ts := by
      cases top
      · exact ⟨hwf.1, _, hwf.2⟩
      · exact ⟨hwf.1, _, hwf.2.2.1⟩
    have hne : remarkT sep' ts ≠ [] := by simpa [remarkT] using hts.1
    cases addSep with
    | false =>
      obtain ⟨_, _, hb⟩ := hts
      exact ⟨hne, fun ha => head_remarkT (P := fun c => c ≠ '+' ∧ c ≠ '-' ∧ c ≠ '&') (h1 rfl ha top ts rfl),
        allBare_remark_top hb, (tokChars_remarkT sep' ts).symm ▸ (show '*' ∉ tokChars ts from hr)⟩
    | true =>
      cases top with
      | false => exact ⟨hne, allBare_remarkT hwf.2 fun _ hb _ => hb.of_ne (by simp)⟩
      | true => cases h2 rfl
  | search inv m attr term =>
    obtain ⟨hm, hne, hamp, hba, hbt, hq⟩ := hwf
    exact ⟨hm, hne, hamp, allBare_sep (by simp) hba, allBare_sep (by simp) hbt, hq⟩
  | regex inv attr d term =>
    obtain ⟨hne, hamp, hba, r⟩ := hwf
    exact ⟨hne, hamp, allBare_sep (by simp) hba, r⟩
  | keyword inv kw ps => exact allBare_sep (sep := sep) (by simp) hwf
  | collector e op => exact ⟨hwf.1, allBare_sep (by simp) hwf.2⟩

theorem remark1_flags (sep : Char) (addSep : Bool) (l : LSeg) :
    (remark1 sep addSep l).isColl = l.isColl ∧ (remark1 sep addSep l).isInter = l.isInter := by
  cases l <;> simp [remark1, LSeg.isColl, LSeg.isInter]

theorem remark1_seg_true (sep : Char) (addSep : Bool) (l : LSeg) :
    (remark1 sep addSep l).seg true = l.seg true := by
  cases l <;> simp [remark1, LSeg.seg, tokView, tokChars_remarkT]

theorem remark1_ok (sep : Char) (addSep : Bool) (l : LSeg) (h : RenderOK l) :
    RenderOK (remark1 sep addSep l) := by
  cases l <;> simp_all [remark1, RenderOK, tokChars_remarkT]

theorem remark1_idem (sep : Char) (addSep : Bool) (l : LSeg) :
    remark1 sep addSep (remark1 sep addSep l) = remark1 sep addSep l := by
  cases l <;> simp [remark1, remarkT_idem]

/-! ## Lists -/

def remarkFrom (sep : Char) : Bool → List LSeg → List LSeg
  | _, [] => []
  | addSep, l :: r => remark1 sep addSep l :: remarkFrom sep true r

theorem renderFrom_eq {sep sep' : Char} (hsep' : sep' = '.' ∨ sep' = '/') :
    ∀ (ls : List LSeg) (ac addSep : Bool), wfFromL sep ac ls → (∀ l ∈ ls, RenderOK l) →
    renderFrom sep' addSep (ls.map (LSeg.seg false)) =
      textFrom sep' addSep (remarkFrom sep' addSep ls) := by
  intro ls
  induction ls with
  | nil => intro _ _ _ _; rfl
  | cons l r ih =>
    intro ac addSep hwf hok
    obtain ⟨hw1, hw3⟩ := hwf
    simp only [List.map_cons, renderFrom, remarkFrom, textFrom]
    rw [render_seg hsep' addSep l hw1 (hok l (by simp)),
      ih _ true hw3 (fun x hx => hok x (by simp [hx]))]

theorem remarkFrom_wf {sep sep' : Char} :
    ∀ (ls : List LSeg) (ac addSep : Bool), wfFromL sep ac ls → (∀ l ∈ ls, RenderOK l) →
    (addSep = false → ac = false) → (∀ l ∈ (if addSep then ls else ls.tail), l.isTop = false) →
    wfFromL sep' ac (remarkFrom sep' addSep ls) := by
  intro ls
  induction ls with
  | nil => intro _ _ _ _ _ _; trivial
  | cons l r ih =>
    intro ac addSep hwf hok h1 h2
    obtain ⟨hw1, hw3⟩ := hwf
    obtain ⟨f1, _⟩ := remark1_flags sep' addSep l
    refine ⟨remark1_wf addSep l hw1 (hok l (by simp))
      (fun ha hc => by rw [h1 ha] at hc; cases hc) (fun ha => h2 l (by simp [ha])), ?_⟩
    · rw [f1]
      apply ih _ true hw3 (fun x hx => hok x (by simp [hx])) (by simp)
      intro x hx
      simp only [↓reduceIte] at hx
      apply h2 x
      cases addSep
      · simpa using hx
      · simp [hx]

theorem remarkFrom_seg_true (sep : Char) : ∀ (ls : List LSeg) (addSep : Bool),
    (remarkFrom sep addSep ls).map (LSeg.seg true) = ls.map (LSeg.seg true) := by
  intro ls
  induction ls with
  | nil => intro _; rfl
  | cons l r ih => intro a; simp [remarkFrom, remark1_seg_true, ih]

theorem remarkFrom_ok (sep : Char) : ∀ (ls : List LSeg) (addSep : Bool), (∀ l ∈ ls, RenderOK l) →
    ∀ l ∈ remarkFrom sep addSep ls, RenderOK l := by
  intro ls
  induction ls with
  | nil => intro _ _ l hl; simp [remarkFrom] at hl
  | cons x r ih =>
    intro a hok l hl
    simp only [remarkFrom, List.mem_cons] at hl
    rcases hl with rfl | hl
    · exact remark1_ok sep a x (hok x (by simp))
    · exact ih true (fun y hy => hok y (by simp [hy])) l hl

theorem remarkFrom_idem (sep : Char) : ∀ (ls : List LSeg) (addSep : Bool),
    remarkFrom sep addSep (remarkFrom sep addSep ls) = remarkFrom sep addSep ls := by
  intro ls
  induction ls with
  | nil => intro _; rfl
  | cons l r ih => intro a; simp [remarkFrom, remark1_idem, ih]

theorem remarkFrom_tail_top (sep : Char) : ∀ (ls : List LSeg) (addSep : Bool),
    ∀ l ∈ (if addSep then remarkFrom sep addSep ls else (remarkFrom sep addSep ls).tail),
      l.isTop = false := by
  intro ls
  induction ls with
  | nil => intro a l hl; cases a <;> simp [remarkFrom] at hl
  | cons x r ih =>
    intro a l hl
    have hr := ih true
    simp only [↓reduceIte] at hr
    cases a with
    | false =>
      simp only [Bool.false_eq_true, ↓reduceIte, remarkFrom, List.tail_cons] at hl
      exact hr l hl
    | true =>
      simp only [↓reduceIte, remarkFrom, List.mem_cons] at hl
      rcases hl with rfl | hl
      · cases x <;> simp [remark1, LSeg.isTop]
      · exact hr l hl

theorem render_eq (fslash : Bool) {sep : Char} (ls : List LSeg) (ac : Bool)
    (hwf : wfFromL sep ac ls) (hok : ∀ l ∈ ls, RenderOK l) :
    render fslash (ls.map (LSeg.seg false)) =
      textAll fslash (remarkFrom (if fslash then '/' else '.') false ls) := by
  cases fslash
  · simp [render, textAll, renderFrom_eq (sep' := '.') (Or.inl rfl) ls ac false hwf hok]
  · simp [render, textAll, renderFrom_eq (sep' := '/') (Or.inr rfl) ls ac false hwf hok]

end Ypv.Sim
