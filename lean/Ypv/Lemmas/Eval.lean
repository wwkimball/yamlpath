import Ypv.Model.Eval
import Ypv.Spec.Select
/-!
# Lemmas about generators and the evaluator (helpers of `Props/C01`, `C15`, `C02`)
-/
namespace Ypv
namespace Gen
variable {α β γ : Type}

theorem append_none (l : List α) (h : Gen α) : append (l, none) h = (l ++ h.1, h.2) := rfl

@[simp] theorem nil_append (g : Gen α) : append nil g = g := rfl

@[simp] theorem append_nil (g : Gen α) : append g nil = g := by
  obtain ⟨l, _ | e⟩ := g
  · simp [append_none, nil]
  · rfl

theorem append_assoc (g h k : Gen α) : append (append g h) k = append g (append h k) := by
  obtain ⟨l, _ | e⟩ := g
  · obtain ⟨l2, _ | e2⟩ := h
    · simp only [append_none, List.append_assoc]
    · rfl
  · rfl

@[simp] theorem fail_append (e : Err) (g : Gen α) : append (fail e) g = fail e := rfl

@[simp] theorem bindList_nil (f : α → Gen β) : bindList f [] = nil := rfl

@[simp] theorem bindList_cons (f : α → Gen β) (x : α) (xs : List α) :
    bindList f (x :: xs) = append (f x) (bindList f xs) := rfl

theorem bindList_append (f : α → Gen β) (l₁ l₂ : List α) :
    bindList f (l₁ ++ l₂) = append (bindList f l₁) (bindList f l₂) := by
  induction l₁ with
  | nil => rfl
  | cons x xs ih => simp only [List.cons_append, bindList_cons, ih, append_assoc]

theorem bind_def (g : Gen α) (f : α → Gen β) : bind g f = append (bindList f g.1) ([], g.2) := rfl

@[simp] theorem bind_empty (e : Option Err) (f : α → Gen β) : bind (([], e) : Gen α) f = ([], e) := rfl

@[simp] theorem bind_nil (f : α → Gen β) : bind nil f = nil := rfl

@[simp] theorem bind_fail (e : Err) (f : α → Gen β) : bind (fail e) f = fail e := rfl

@[simp] theorem bind_ofList (l : List α) (f : α → Gen β) : bind (ofList l) f = bindList f l :=
  append_nil _

@[simp] theorem bind_one (x : α) (f : α → Gen β) : bind (one x) f = f x :=
  (append_nil _).trans (append_nil _)

theorem bind_append (g h : Gen α) (f : α → Gen β) :
    bind (append g h) f = append (bind g f) (bind h f) := by
  obtain ⟨l, _ | x⟩ := g
  · simp only [append_none, bind_def, bindList_append, append_assoc]
    rfl
  · -- `g` raises: so does `bind g f`, and neither runs what follows
    show append (bindList f l) ([], some x) = append (append (bindList f l) ([], some x)) (bind h f)
    obtain ⟨l', _ | e'⟩ := bindList f l <;> rfl

theorem bindList_bind (f : α → Gen β) (k : β → Gen γ) (l : List α) :
    bind (bindList f l) k = bindList (fun x => bind (f x) k) l := by
  induction l with
  | nil => rfl
  | cons x xs ih => simp only [bindList_cons, bind_append, ih]

theorem bind_assoc (g : Gen α) (f : α → Gen β) (k : β → Gen γ) :
    bind (bind g f) k = bind g (fun x => bind (f x) k) := by
  rw [bind_def g f, bind_append, bindList_bind, bind_empty]
  rfl

theorem bindList_congr_mem {f g : α → Gen β} (l : List α) (h : ∀ x ∈ l, f x = g x) :
    bindList f l = bindList g l := by
  induction l with
  | nil => rfl
  | cons x xs ih =>
    simp only [bindList_cons]
    rw [h x List.mem_cons_self, ih (fun y hy => h y (List.mem_cons_of_mem _ hy))]

theorem bind_congr_mem {f g : α → Gen β} (a : Gen α) (h : ∀ x ∈ a.1, f x = g x) : bind a f = bind a g := by
  simp only [bind_def, bindList_congr_mem a.1 h]

@[simp] theorem map_nil (f : α → β) : map f (nil : Gen α) = nil := rfl
@[simp] theorem map_fail (f : α → β) (e : Err) : map f (fail e : Gen α) = fail e := rfl
@[simp] theorem map_one (f : α → β) (x : α) : map f (one x) = one (f x) := rfl

theorem map_append (f : α → β) (g h : Gen α) : map f (append g h) = append (map f g) (map f h) := by
  obtain ⟨l, _ | e⟩ := g
  · simp only [append_none, map, List.map_append]
  · rfl

theorem bindList_map (f : α → β) (k : β → Gen γ) (l : List α) :
    bindList k (l.map f) = bindList (fun x => k (f x)) l := by
  induction l with
  | nil => rfl
  | cons x xs ih => simp only [List.map_cons, bindList_cons, ih]

theorem bind_map (f : α → β) (g : Gen α) (k : β → Gen γ) : bind (map f g) k = bind g (fun x => k (f x)) := by
  simp only [bind_def, map, bindList_map]

theorem map_bindList (f : β → γ) (k : α → Gen β) (l : List α) :
    map f (bindList k l) = bindList (fun x => map f (k x)) l := by
  induction l with
  | nil => rfl
  | cons x xs ih => simp only [bindList_cons, map_append, ih]

theorem bindList_one (l : List α) : bindList one l = (l, none) := by
  induction l with
  | nil => rfl
  | cons x xs ih => rw [bindList_cons, ih]; rfl

@[simp] theorem bind_one_right (g : Gen α) : bind g one = g := by
  rw [bind_def, bindList_one, append_none, List.append_nil]

/-- A filter by probes followed by a continuation that re-runs the probe is the plain iteration. -/
theorem filterFirst_bind (p : α → Gen β) (k : α → Gen γ) (l : List α)
    (h : ∀ x e, p x = ([], e) → k x = ([], e)) :
    bind (filterFirst p l) k = bindList k l := by
  induction l with
  | nil => rfl
  | cons x xs ih =>
    simp only [filterFirst, bindList_cons]
    match hp : p x with
    | (y :: ys, e) => simp only [bind_append, bind_one, ih]
    | ([], some e) => rw [h x _ hp]; rfl
    | ([], none) => rw [h x _ hp, ih]; rfl

@[simp] theorem ifAny_fail (e : Err) (x : α) : ifAny (fail e : Gen β) x = fail e := rfl
@[simp] theorem ifAny_nil (x : α) : ifAny (nil : Gen β) x = nil := rfl

theorem ifAny_bind (g : Gen β) (x : α) (k : α → Gen γ) (h : ∀ e, g = ([], e) → k x = ([], e)) :
    bind (ifAny g x) k = k x := by
  match g, h with
  | (y :: ys, e), _ => exact bind_one x k
  | ([], some e), h => rw [h _ rfl]; rfl
  | ([], none), h => rw [h _ rfl]; rfl

/-! ### The results of a composed generator come from its parts, in order -/

theorem append_fst_sublist (g h : Gen α) : (append g h).1.Sublist (g.1 ++ h.1) := by
  obtain ⟨l, _ | e⟩ := g
  · exact List.Sublist.refl _
  · exact List.sublist_append_left _ _

theorem bindList_fst_sublist (f : α → Gen β) (l : List α) :
    (bindList f l).1.Sublist (l.flatMap (fun x => (f x).1)) := by
  induction l with
  | nil => exact List.Sublist.refl _
  | cons x xs ih =>
    exact List.Sublist.trans (append_fst_sublist _ _) (List.Sublist.append (List.Sublist.refl _) ih)

theorem bind_fst_sublist (g : Gen α) (f : α → Gen β) :
    (bind g f).1.Sublist (g.1.flatMap (fun x => (f x).1)) := by
  refine List.Sublist.trans (append_fst_sublist _ _) ?_
  rw [List.append_nil]
  exact bindList_fst_sublist f g.1

theorem filterFirst_sublist (p : α → Gen β) : ∀ (l : List α), (filterFirst p l).1.Sublist l := by
  intro l
  induction l with
  | nil => exact List.Sublist.refl _
  | cons x xs ih =>
    simp only [filterFirst]
    split
    · exact List.Sublist.trans (append_fst_sublist _ _) (List.Sublist.cons_cons x ih)
    · exact List.nil_sublist _
    · exact List.Sublist.cons _ ih

theorem ifAny_sublist (g : Gen β) (x : α) : (ifAny g x).1.Sublist [x] := by
  unfold ifAny
  split
  · exact List.Sublist.refl _
  · exact List.nil_sublist _
  · exact List.nil_sublist _

theorem mem_bindList_fst {f : α → Gen β} {l : List α} {y : β} (hy : y ∈ (bindList f l).1) :
    ∃ x ∈ l, y ∈ (f x).1 :=
  List.mem_flatMap.mp ((bindList_fst_sublist f l).subset hy)

theorem mem_bind_fst {g : Gen α} {f : α → Gen β} {y : β} (hy : y ∈ (bind g f).1) :
    ∃ x ∈ g.1, y ∈ (f x).1 :=
  List.mem_flatMap.mp ((bind_fst_sublist g f).subset hy)

theorem mem_filterFirst_fst {p : α → Gen β} {l : List α} {x : α} (hx : x ∈ (filterFirst p l).1) : x ∈ l :=
  (filterFirst_sublist p l).subset hx

theorem mem_ifAny_fst {g : Gen β} {x y : α} (hy : y ∈ (ifAny g x).1) : y = x :=
  List.mem_singleton.mp ((ifAny_sublist g x).subset hy)

theorem mem_map_fst {f : α → β} {g : Gen α} {y : β} (hy : y ∈ (map f g).1) : ∃ x ∈ g.1, f x = y :=
  List.mem_map.mp hy

end Gen

/-- Structural induction on documents, with the hypothesis for the elements of a list and the values
of a dict by membership. -/
theorem Node.induct {P : Node → Prop} (scalar : ∀ a v, P (.scalar a v))
    (seq : ∀ a items, (∀ n ∈ items, P n) → P (.seq a items))
    (map : ∀ a es, (∀ kv ∈ es, P kv.2) → P (.map a es))
    (set : ∀ a ms, P (.set a ms)) (n : Node) : P n :=
  Node.rec (motive_1 := P) (motive_2 := fun l => ∀ n ∈ l, P n) (motive_3 := fun l => ∀ kv ∈ l, P kv.2)
    (motive_4 := fun kv => P kv.2) scalar seq map set (fun _ h => nomatch h)
    (fun _ _ h t => List.forall_mem_cons.mpr ⟨h, t⟩) (fun _ h => nomatch h)
    (fun _ _ h t => List.forall_mem_cons.mpr ⟨h, t⟩)
    (fun _ _ h => h) n

namespace Eval
open Ypv.Spec Gen

mutual
theorem walk_eq (f : Node → Ctx → Gen NC) :
    (n : Node) → (c : Ctx) → walk f n c = Gen.bindList (fun x => f x.1 x.2) (preorder n c)
  | .scalar a v => fun c => by simp [walk, preorder]
  | .set a ms => fun c => by simp [walk, preorder]
  | .seq a items => fun c => by
      simp only [walk, preorder, bindList_cons]
      rw [walkSeq_eq f c items 0]
  | .map a es => fun c => by
      simp only [walk, preorder, bindList_cons]
      rw [walkMap_eq f c es]
theorem walkSeq_eq (f : Node → Ctx → Gen NC) (c : Ctx) :
    (items : List Node) → (i : Nat) →
      walk.walkSeq f c items i = Gen.bindList (fun x => f x.1 x.2) (preorder.preSeq c items i)
  | [] => fun _ => rfl
  | n :: ns => fun i => by
      simp only [walk.walkSeq, preorder.preSeq, bindList_append]
      rw [walk_eq f n, walkSeq_eq f c ns]
theorem walkMap_eq (f : Node → Ctx → Gen NC) (c : Ctx) :
    (es : List (Key × Node)) →
      walk.walkMap f c es = Gen.bindList (fun x => f x.1 x.2) (preorder.preMap c es)
  | [] => rfl
  | (k, n) :: es => by
      simp only [walk.walkMap, preorder.preMap, bindList_append]
      rw [walk_eq f n, walkMap_eq f c es]
end

theorem preorder_head (n : Node) (c : Ctx) : ∃ t, preorder n c = (n, c) :: t := by
  cases n <;> exact ⟨_, by rw [preorder]⟩

/-! The list walks of the model, by the children they visit. -/

theorem seqKidsFrom_fst (c : Ctx) : ∀ (items : List Node) (i : Nat), (seqKidsFrom c items i).map (·.1) = items := by
  intro items
  induction items with
  | nil => exact fun _ => rfl
  | cons n ns ih => exact fun i => congrArg (n :: ·) (ih (i + 1))

theorem seqKidsFrom_mem {c : Ctx} {items : List Node} {i : Nat} {x : NC} (h : x ∈ seqKidsFrom c items i) :
    x.1 ∈ items :=
  seqKidsFrom_fst c items i ▸ List.mem_map_of_mem h

/-- The children a list walk produces are the elements with their positions: for `seqKidsFrom c`
and `anchorKids.go a c` alike (`F`), which differ in the path section `sec` they report. -/
theorem mem_idxKids {c : Ctx} {sec : Nat → Str} {F : List Node → Nat → List NC} (h0 : ∀ i, F [] i = [])
    (h1 : ∀ n ns i, F (n :: ns) i = (n, c.child (.idx i) (.idx i) (sec i)) :: F ns (i + 1)) {x : NC} :
    ∀ {items : List Node} {i : Nat}, x ∈ F items i ↔
      ∃ j, items[j]? = some x.1 ∧ x.2 = c.child (.idx (i + j)) (.idx ((i + j : Nat) : Int)) (sec (i + j)) := by
  intro items
  induction items with
  | nil => intro i; rw [h0]; exact iff_of_false List.not_mem_nil (fun ⟨_, h, _⟩ => nomatch h)
  | cons n ns ih =>
    intro i
    rw [h1]
    refine ⟨fun hx => ?_, fun ⟨j, hj, hc⟩ => ?_⟩
    · cases hx with
      | head => exact ⟨0, rfl, rfl⟩
      | tail _ hm =>
        obtain ⟨j, hj, hc⟩ := ih.mp hm
        exact ⟨j + 1, hj, by rw [hc, Nat.add_right_comm, Nat.add_assoc]⟩
    · cases j with
      | zero => exact List.mem_cons.mpr (Or.inl (Prod.ext (Option.some.inj hj).symm hc))
      | succ j => exact List.mem_cons_of_mem _ (ih.mpr ⟨j, hj, by rw [hc, Nat.add_right_comm, Nat.add_assoc]⟩)

theorem passThrough_kids (k : Str) (tl : Bool) (c : Ctx) : ∀ (items : List Node) (i : Nat),
    keyStep.passThrough k tl c items i = bindList (fun x => keyStep k tl x.1 x.2) (seqKidsFrom c items i) := by
  intro items
  induction items with
  | nil => exact fun _ => rfl
  | cons n ns ih => intro i; simp only [keyStep.passThrough, seqKidsFrom, bindList_cons, ih]

theorem preSeq_kids (c : Ctx) : ∀ (items : List Node) (i : Nat),
    preorder.preSeq c items i = (seqKidsFrom c items i).flatMap (fun x => preorder x.1 x.2) := by
  intro items
  induction items with
  | nil => exact fun _ => rfl
  | cons n ns ih => intro i; simp only [preorder.preSeq, seqKidsFrom, List.flatMap_cons, ih]

theorem preMap_kids (c : Ctx) : ∀ (es : List (Key × Node)),
    preorder.preMap c es = (mapKids c es).flatMap (fun x => preorder x.1 x.2) := by
  intro es
  induction es with
  | nil => rfl
  | cons kv es ih =>
    simp only [preorder.preMap, mapKids, List.map_cons, List.flatMap_cons]
    rw [← mapKids, ih]

section
variable {mt : Matcher} {dsc : Desc}

theorem deepKids_sublist (n : Node) (c : Ctx) : (deepKids n c).Sublist (kids n c) := by
  cases n
  case set => exact List.nil_sublist _
  all_goals exact List.Sublist.refl _

/-! What a search yields is a selection, in order, of what it was given. -/

theorem yieldIf_sublist (inv : Bool) (r : Except Err Bool) (x : NC) : (yieldIf inv r x).1.Sublist [x] := by
  unfold yieldIf
  split
  · split
    · exact List.Sublist.refl _
    · exact List.nil_sublist _
  · exact List.nil_sublist _

theorem searchList_sublist (inv : Bool) (m : Method) (attr term : Str) (aoh : Bool) :
    ∀ (l : List NC), (searchList mt dsc inv m attr term aoh l).1.Sublist l := by
  intro l
  induction l with
  | nil => exact List.Sublist.refl _
  | cons x xs ih =>
    exact List.Sublist.trans (append_fst_sublist _ _) (List.Sublist.append (yieldIf_sublist inv _ x) ih)

theorem searchNames_sublist (inv : Bool) (m : Method) (term : Str) :
    ∀ (l : List (Key × NC)), (searchNames mt inv m term l).1.Sublist (l.map (·.2)) := by
  intro l
  induction l with
  | nil => exact List.Sublist.refl _
  | cons x xs ih =>
    exact List.Sublist.trans (append_fst_sublist _ _) (List.Sublist.append (yieldIf_sublist inv _ x.2) ih)


/-- What a search segment yields at `(n, c)`: a selection of the children, or at most the value under
the attribute, or at most the node itself. -/
theorem searchStep_sublist (inv : Bool) (m : Method) (attr term : Str) (tl : Bool) (n : Node) (c : Ctx) :
    (searchStep mt dsc inv m attr term tl n c).1.Sublist (kids n c)
    ∨ (searchStep mt dsc inv m attr term tl n c).1.Sublist [(n, c)]
    ∨ ∃ a es v, n = .map a es ∧ es.lookup (.str attr) = some v ∧
        (searchStep mt dsc inv m attr term tl n c).1.Sublist
          [(v, c.child (.key (.str attr)) (.key (.str attr)) (escSection attr))] := by
  cases n with
  | scalar a v => exact Or.inr (Or.inl (yieldIf_sublist _ _ _))
  | seq a items =>
    cases tl with
    | true => exact Or.inl (searchList_sublist _ _ _ _ _ _)
    | false => exact Or.inl (List.nil_sublist _)
  | set a ms =>
    refine Or.inl ?_
    have := searchNames_sublist (mt := mt) inv m term
      (ms.map (fun k => (k, (k.toNode, c.child (.member k) (.member k) (escSection k.text)))))
    rwa [List.map_map] at this
  | map a es =>
    simp only [searchStep, searchMap]
    by_cases hat : attr = ['.']
    · rw [if_pos hat]
      refine Or.inl ?_
      have := searchNames_sublist (mt := mt) inv m term
        (es.map (fun kv => (kv.1, (kv.2, c.child (.key kv.1) (.key kv.1) (escSection kv.1.text)))))
      rwa [List.map_map] at this
    · rw [if_neg hat]
      cases hv : es.lookup (.str attr) with
      | some v => exact Or.inr (Or.inr ⟨a, es, v, rfl, hv, yieldIf_sublist _ _ _⟩)
      | none =>
        refine Or.inr (Or.inl ?_)
        simp only []
        split
        · exact List.Sublist.refl _
        · exact List.nil_sublist _
        · exact List.nil_sublist _

end

/-- Behind the guard `-len(data) <= i < len(data)` Python's `data[i]` cannot raise: it is the element at the
normalised position. -/
theorem pyGetItem_eq {α : Type} (l : List α) (i : Int) (h : inRange l.length i = true) :
    ∃ x, pyGetItem l i = .ok x ∧ l[normIdx l.length i]? = some x := by
  simp only [inRange, Bool.and_eq_true, decide_eq_true_eq] at h
  have ⟨hj, hl⟩ : ¬ (if i < 0 then i + (l.length : Int) else i) < 0 ∧
      (if i < 0 then i + (l.length : Int) else i).toNat < l.length := by split <;> omega
  have hn : normIdx l.length i = (if i < 0 then i + (l.length : Int) else i).toNat :=
    (apply_ite Int.toNat _ _ _).symm
  refine ⟨l[(if i < 0 then i + (l.length : Int) else i).toNat], ?_, ?_⟩
  · simp only [pyGetItem, if_neg hj, List.getElem?_eq_getElem hl]
  · rw [hn, List.getElem?_eq_getElem hl]

theorem pyGetItem_inRange {α : Type} (l : List α) (i : Int) (h : inRange l.length i = true) :
    ∃ x, pyGetItem l i = .ok x :=
  let ⟨x, hx, _⟩ := pyGetItem_eq l i h
  ⟨x, hx⟩

theorem pyGetItem_spec {α : Type} (l : List α) (i : Int) (x : α) (h : inRange l.length i = true)
    (hx : pyGetItem l i = .ok x) : l[normIdx l.length i]? = some x := by
  obtain ⟨y, hy, hs⟩ := pyGetItem_eq l i h
  cases hx.symm.trans hy
  exact hs

theorem elemAt_eq (items : List Node) (i : Int) (c : Ctx) :
    elemAt items i c = Gen.nil ∨ ∃ x, inRange items.length i = true ∧ items[normIdx items.length i]? = some x ∧
      elemAt items i c = Gen.one (x, c.child (.idx (normIdx items.length i)) (.idx i) (idxSection i)) := by
  unfold elemAt
  by_cases h : inRange items.length i = true
  · obtain ⟨x, hx, hs⟩ := pyGetItem_eq items i h
    rw [if_pos h, hx]
    exact Or.inr ⟨x, h, hs, rfl⟩
  · exact Or.inl (if_neg h)

/-- Induction along `_get_nodes_by_key`.  It yields nothing; or one child: the value under the string key
`k` or, failing that, under the integer key `int(k)`, the first member with the text `k`; or, on a list, an
element (case `index`: any index, not tied to `int(k)`) or what it yields at each element (case `pass`). -/
theorem keyStep_induct (k : Str) (tl : Bool) {Q : Node → Ctx → Gen NC → Prop}
    (nil : ∀ n c, Q n c Gen.nil)
    (entry : ∀ a es c k' v, es.lookup k' = some v →
      k' = .str k ∨ (∃ i, pyInt? k = some i ∧ k' = .int i ∧ es.lookup (.str k) = none) →
      Q (.map a es) c (Gen.one (v, c.child (.key k') (.key k') (escSection k))))
    (member : ∀ a ms c m, m ∈ ms → m.text = k →
      Q (.set a ms) c (Gen.one (m.toNode, c.child (.member m) (.member m) (escSection k))))
    (index : ∀ a items c i, Q (.seq a items) c (elemAt items i c))
    (pass : ∀ a items c, (∀ x ∈ seqKidsFrom c items 0, Q x.1 x.2 (keyStep k tl x.1 x.2)) →
      Q (.seq a items) c (bindList (fun x => keyStep k tl x.1 x.2) (seqKidsFrom c items 0)))
    (n : Node) : ∀ c, Q n c (keyStep k tl n c) := by
  induction n using Node.induct with
  | scalar a v => exact nil _
  | map a es =>
    intro c
    simp only [keyStep, keyOnMap]
    split
    · rename_i v hv
      exact entry a es c _ v hv (Or.inl rfl)
    · rename_i hn
      split
      · rename_i i hi
        split
        · rename_i v hv
          exact entry a es c _ v hv (Or.inr ⟨i, hi, rfl, hn⟩)
        · exact nil _ c
      · exact nil _ c
  | set a ms =>
    intro c
    simp only [keyStep, keyOnSet]
    split
    · rename_i m hm
      exact member a ms c m (List.mem_of_find?_eq_some hm) (by simpa using List.find?_some hm)
    · exact nil _ c
  | seq a items ih =>
    intro c
    simp only [keyStep]
    split
    · exact index a items c _
    · split
      · rw [passThrough_kids]
        exact pass a items c (fun x hx => ih x.1 (seqKidsFrom_mem hx) x.2)
      · exact nil _ c

variable (mt : Matcher) (dsc : Desc) (rt : Node)

/-! The dispatcher on the segments that do not probe the next one. -/
section
variable (rest : List ESeg) (tl : Bool) (n : Node) (c : Ctx)

theorem stepSeg_key (k : Str) : stepSeg mt dsc rt (.key k) rest tl n c = (keyStep k tl n c).map Res.real := by
  cases rest <;> rfl
theorem stepSeg_index (i : Int) : stepSeg mt dsc rt (.index i) rest tl n c = (indexStep i n c).map Res.real := by
  cases rest <;> rfl
theorem stepSeg_slice (lo hi : Str) : stepSeg mt dsc rt (.slice lo hi) rest tl n c = sliceStep lo hi n c := by
  cases rest <;> rfl
theorem stepSeg_anchor (a : Str) : stepSeg mt dsc rt (.anchor a) rest tl n c = (anchorStep a n c).map Res.real := by
  cases rest <;> rfl
theorem stepSeg_search (inv : Bool) (m : Method) (attr term : Str) :
    stepSeg mt dsc rt (.search inv m attr term) rest tl n c
      = (searchStep mt dsc inv m attr term tl n c).map Res.real := by
  cases rest <;> rfl

end

theorem stepSeg_children (s : ESeg) (rest : List ESeg) (n : Node) (c : Ctx)
    (h1 : s ≠ .matchAll) (h2 : s ≠ .traverse) :
    stepSeg mt dsc rt s rest true n c = children mt dsc rt s n c := by
  cases s with
  | matchAll => exact absurd rfl h1
  | traverse => exact absurd rfl h2
  | _ => cases rest <;> rfl

/-- `traverse_lists=False` only switches off the two ways of entering a list. -/
theorem stepSeg_tl_false (s : ESeg) (rest : List ESeg) (n : Node) (c : Ctx) :
    stepSeg mt dsc rt s rest false n c
      = if direct s n then stepSeg mt dsc rt s rest true n c else Gen.nil := by
  cases s with
  | key k =>
    rw [stepSeg_key, stepSeg_key]
    cases n with
    | seq a items => cases hk : pyInt? k <;> simp [keyStep, direct, hk]
    | _ => rfl
  | search inv m attr term =>
    rw [stepSeg_search, stepSeg_search]
    cases n <;> rfl
  | _ =>
    rw [if_pos (by cases n <;> rfl)]
    cases rest <;> rfl

/-- A path splits after a prefix none of whose segments probes the next one. -/
theorem required_append_plain : ∀ (segs segs' : List ESeg) (r : Res), (∀ t ∈ segs, t ≠ .matchAll ∧ t ≠ .traverse) →
    required mt dsc rt (segs ++ segs') r = Gen.bind (required mt dsc rt segs r) (required mt dsc rt segs') := by
  intro segs segs'
  induction segs with
  | nil => exact fun r _ => (bind_one r _).symm
  | cons t ts ih =>
    intro r h
    have ht := h t List.mem_cons_self
    have hstep : stepRes mt dsc rt t (ts ++ segs') r = stepRes mt dsc rt t ts r := by
      match r with
      | .virt items => rfl
      | .real (n, c) =>
        show stepSeg mt dsc rt t _ true n c = stepSeg mt dsc rt t _ true n c
        rw [stepSeg_children mt dsc rt t _ n c ht.1 ht.2, stepSeg_children mt dsc rt t _ n c ht.1 ht.2]
    simp only [List.cons_append, required, hstep, bind_assoc]
    exact bind_congr_mem _ (fun x _ => ih x (fun u hu => h u (List.mem_cons_of_mem _ hu)))

end Eval

/-! ## No crash outcome is reachable (C15) -/

/-- The generator does not end in a Python exception outside the YAML Path family. -/
def Gen.NoCrash {α : Type} (g : Gen α) : Prop := ∀ e, g.2 = some e → e.isCrash = false

/-- The matcher raises only non-crash outcomes. -/
def MtSafe (mt : Matcher) : Prop := ∀ m n t e, mt m n t = .error e → e.isCrash = false

/-- The evaluation of attribute paths raises only non-crash outcomes. -/
def DscSafe (dsc : Desc) : Prop := ∀ a n c, (dsc a n c).NoCrash

/-- An outcome that is a value or a non-crash error. -/
def W1.SafeE {α : Type} (r : Except Err α) : Prop := ∀ e, r = .error e → e.isCrash = false

namespace Gen
variable {α β γ : Type}

theorem noCrash_nil : (nil : Gen α).NoCrash := fun _ h => nomatch h
theorem noCrash_one (x : α) : (one x).NoCrash := fun _ h => nomatch h
theorem noCrash_ofList (l : List α) : (ofList l).NoCrash := fun _ h => nomatch h
theorem noCrash_fail {e : Err} (h : e.isCrash = false) : (fail e : Gen α).NoCrash := by
  intro e' h'; cases h'; exact h

theorem noCrash_append {g h : Gen α} (hg : g.NoCrash) (hh : h.NoCrash) : (append g h).NoCrash := by
  obtain ⟨l, _ | x⟩ := g
  · exact hh
  · exact hg

theorem noCrash_bindList {f : α → Gen β} (l : List α) (h : ∀ x ∈ l, (f x).NoCrash) : (bindList f l).NoCrash := by
  induction l with
  | nil => exact noCrash_nil
  | cons x xs ih =>
    exact noCrash_append (h x List.mem_cons_self) (ih (fun y hy => h y (List.mem_cons_of_mem _ hy)))

theorem noCrash_bind {g : Gen α} {f : α → Gen β} (hg : g.NoCrash) (h : ∀ x, (f x).NoCrash) : (bind g f).NoCrash :=
  noCrash_append (noCrash_bindList _ (fun x _ => h x)) hg

theorem noCrash_map {g : Gen α} (f : α → β) (hg : g.NoCrash) : (map f g).NoCrash := hg

theorem noCrash_filterFirst {p : α → Gen β} (l : List α) (h : ∀ x ∈ l, (p x).NoCrash) : (filterFirst p l).NoCrash := by
  induction l with
  | nil => exact noCrash_nil
  | cons x xs ih =>
    have ih' := ih (fun y hy => h y (List.mem_cons_of_mem _ hy))
    simp only [filterFirst]
    split
    · exact noCrash_append (noCrash_one x) ih'
    · rename_i e hp
      exact noCrash_fail (h x List.mem_cons_self e (by rw [hp]))
    · exact ih'

theorem noCrash_ifAny {g : Gen β} (x : α) (hg : g.NoCrash) : (ifAny g x).NoCrash := by
  match g, hg with
  | (y :: ys, e), _ => exact noCrash_one x
  | ([], some e), hg => exact noCrash_fail (hg e rfl)
  | ([], none), _ => exact noCrash_nil

end Gen

namespace Eval
open Gen W1

theorem noCrash_elemAt (items : List Node) (i : Int) (c : Ctx) : (elemAt items i c).NoCrash := by
  rcases elemAt_eq items i c with h | ⟨x, _, _, h⟩
  · rw [h]; exact noCrash_nil
  · rw [h]; exact noCrash_one _

theorem noCrash_keyStep (k : Str) (tl : Bool) (n : Node) (c : Ctx) : (keyStep k tl n c).NoCrash :=
  keyStep_induct k tl (Q := fun _ _ g => g.NoCrash) (fun _ _ => noCrash_nil) (fun _ _ _ _ _ _ _ => noCrash_one _)
    (fun _ _ _ _ _ _ => noCrash_one _) (fun _ items c i => noCrash_elemAt items i c)
    (fun _ _ _ ih => noCrash_bindList _ ih) n c

theorem noCrash_passThrough (k : Str) (tl : Bool) (c : Ctx) :
    (items : List Node) → (i : Nat) → (keyStep.passThrough k tl c items i).NoCrash := by
  intro items i
  rw [passThrough_kids]
  exact noCrash_bindList _ (fun x _ => noCrash_keyStep k tl x.1 x.2)

theorem sliceStart_le (len : Nat) (i : Int) : sliceStart len i ≤ len := by
  unfold sliceStart
  by_cases h : i < 0
  · rw [if_pos h]; split <;> omega
  · rw [if_neg h]; split <;> omega

theorem sliceIndices_lt (len : Nat) (lo hi : Int) : ∀ j ∈ sliceIndices len lo hi, j < len := by
  intro j hj
  simp only [sliceIndices, List.mem_map, List.mem_range] at hj
  obtain ⟨k, hk, rfl⟩ := hj
  have := sliceStart_le len hi
  omega

theorem sliceItems_eq (items : List Node) (c : Ctx) : ∀ (ixs : List Nat), (∀ j ∈ ixs, j < items.length) →
    ∃ l, sliceItems items c ixs = .ok l ∧
      ∀ x ∈ l, ∃ j, items[j]? = some x.1 ∧ x.2 = c.child (.idx j) (.idx (Int.ofNat j)) (idxSection (Int.ofNat j)) := by
  intro ixs
  induction ixs with
  | nil => exact fun _ => ⟨[], rfl, fun _ hx => nomatch hx⟩
  | cons j js ih =>
    intro h
    obtain ⟨l, hl, hm⟩ := ih (fun k hk => h k (List.mem_cons_of_mem _ hk))
    have hj := h j List.mem_cons_self
    obtain ⟨x, hx, hs⟩ := pyGetItem_eq items (Int.ofNat j) (by
      simp only [inRange, Bool.and_eq_true, decide_eq_true_eq, Int.ofNat_eq_natCast]; omega)
    refine ⟨(x, c.child (.idx j) (.idx (Int.ofNat j)) (idxSection (Int.ofNat j))) :: l, ?_, ?_⟩
    · unfold sliceItems at hl ⊢
      rw [List.mapM_cons, hl, hx]
      rfl
    · intro y hy
      cases hy with
      | head =>
        rw [show normIdx items.length (Int.ofNat j) = j from if_neg (Int.not_lt.mpr (Int.natCast_nonneg j))] at hs
        exact ⟨j, hs, rfl⟩
      | tail _ hy => exact hm y hy

/-- A hash / set slice compares texts, so it never raises; it selects among the children, in order. -/
theorem sliceOnMap_spec (lo hi : Str) (c : Ctx) : ∀ (es : List (Key × Node)),
    (sliceOnMap lo hi c es).2 = none ∧ (sliceOnMap lo hi c es).1.Sublist (mapKids c es) := by
  intro es
  induction es with
  | nil => exact ⟨rfl, List.Sublist.refl _⟩
  | cons kv es ih =>
    obtain ⟨h1, h2⟩ := ih
    simp only [sliceOnMap, pyKeyBetween]
    split
    · exact ⟨h1, List.Sublist.cons_cons _ h2⟩
    · exact ⟨h1, List.Sublist.cons _ h2⟩
    · rename_i h; cases h

theorem sliceOnSet_spec (lo hi : Str) (c : Ctx) : ∀ (ms : List Key),
    (sliceOnSet lo hi c ms).2 = none ∧ (sliceOnSet lo hi c ms).1.Sublist (setKids c ms) := by
  intro ms
  induction ms with
  | nil => exact ⟨rfl, List.Sublist.refl _⟩
  | cons k ks ih =>
    obtain ⟨h1, h2⟩ := ih
    simp only [sliceOnSet, pyKeyBetween]
    split
    · exact ⟨h1, List.Sublist.cons_cons _ h2⟩
    · exact ⟨h1, List.Sublist.cons _ h2⟩
    · rename_i h; cases h

theorem noCrash_sliceStep (lo hi : Str) (n : Node) (c : Ctx) : (sliceStep lo hi n c).NoCrash := by
  cases n with
  | scalar a v => exact noCrash_nil
  | map a es => exact fun e h => nomatch (sliceOnMap_spec lo hi c es).1.symm.trans h
  | set a ms => exact fun e h => nomatch (sliceOnSet_spec lo hi c ms).1.symm.trans h
  | seq a items =>
    simp only [sliceStep, sliceOnSeq]
    split
    · rename_i x y _ _
      split
      · rename_i h
        obtain ⟨v, hv⟩ := pyGetItem_inRange items x h.2
        rw [hv]
        exact noCrash_one _
      · obtain ⟨l, hl, _⟩ := sliceItems_eq items c _ (sliceIndices_lt items.length x y)
        rw [hl]
        exact noCrash_one _
    · exact noCrash_fail rfl

variable {mt : Matcher} {dsc : Desc} {rt : Node}

theorem noCrash_yieldIf (inv : Bool) {r : Except Err Bool} (x : NC) (h : SafeE r) : (yieldIf inv r x).NoCrash := by
  cases r with
  | error e => exact noCrash_fail (h e rfl)
  | ok b =>
    simp only [yieldIf]
    split
    · exact noCrash_one _
    · exact noCrash_nil

theorem safe_descFirst (hmt : MtSafe mt) (m : Method) (t : Str) (g : Gen Res) (hg : g.NoCrash) :
    SafeE (descFirst mt m t g) := by
  intro e he
  unfold descFirst at he
  split at he
  · exact hmt _ _ _ _ he
  · cases he; rfl
  · cases he; exact hg _ rfl
  · cases he

theorem aoh_elem {items : List Node} (h : ev_isAoh items = true) {n : Node} (hn : n ∈ items) :
    n.evIsNull = true ∨ ∃ a es, n = .map a es := by
  have := List.all_eq_true.mp h n hn
  cases n with
  | map a es => exact Or.inr ⟨a, es, rfl⟩
  | scalar a v => cases v <;> first | exact Or.inl rfl | cases this
  | seq => cases this
  | set => cases this

theorem safe_searchElem (hmt : MtSafe mt) (hd : DscSafe dsc) (m : Method) (attr term : Str) (aoh : Bool) (x : NC)
    (hx : aoh = true → x.1.evIsNull = true ∨ ∃ a es, x.1 = .map a es) :
    SafeE (searchElem mt dsc m attr term aoh x) := by
  intro e he
  unfold searchElem at he
  by_cases hat : attr = ['.']
  · rw [if_pos hat] at he
    by_cases hcond : (aoh && !x.1.evIsNull) = true
    · rw [if_pos hcond] at he
      simp only [Bool.and_eq_true, Bool.not_eq_true'] at hcond
      -- the guard of the fixed code: `term in x` is asked of a dict only
      rcases hx hcond.1 with hn | ⟨a, es, hxe⟩
      · rw [hn] at hcond; cases hcond.2
      · rw [hxe] at he
        simp only [pyIn] at he
        split at he
        · cases he
        · exact hmt _ _ _ _ he
        · rename_i h; cases h
    · rw [if_neg hcond] at he; exact hmt _ _ _ _ he
  · rw [if_neg hat] at he
    split at he
    · split at he
      · exact hmt _ _ _ _ he
      · exact safe_descFirst hmt m term _ (hd _ _ _) e he
    · exact safe_descFirst hmt m term _ (hd _ _ _) e he

theorem noCrash_searchList (hmt : MtSafe mt) (hd : DscSafe dsc) (inv : Bool) (m : Method) (attr term : Str) (aoh : Bool) :
    ∀ (l : List NC), (aoh = true → ∀ x ∈ l, x.1.evIsNull = true ∨ ∃ a es, x.1 = .map a es) →
      (searchList mt dsc inv m attr term aoh l).NoCrash := by
  intro l
  induction l with
  | nil => intro _; exact noCrash_nil
  | cons x xs ih =>
    intro h
    exact noCrash_append
      (noCrash_yieldIf _ _ (safe_searchElem hmt hd m attr term aoh x (fun ha => h ha x List.mem_cons_self)))
      (ih (fun ha y hy => h ha y (List.mem_cons_of_mem _ hy)))

theorem noCrash_searchNames (hmt : MtSafe mt) (inv : Bool) (m : Method) (term : Str) :
    ∀ (l : List (Key × NC)), (searchNames mt inv m term l).NoCrash := by
  intro l
  induction l with
  | nil => exact noCrash_nil
  | cons x xs ih => exact noCrash_append (noCrash_yieldIf _ _ (hmt _ _ _)) ih

theorem safe_descAny (hmt : MtSafe mt) (inv : Bool) (m : Method) (term : Str) (e : Option Err)
    (he : ∀ x, e = some x → x.isCrash = false) :
    ∀ (l : List Res) (seen : Bool), SafeE (descAny mt inv m term l e seen) := by
  intro l
  induction l with
  | nil =>
    intro seen x hx
    cases e with
    | none => cases hx
    | some y => cases hx; exact he _ rfl
  | cons r rs ih =>
    intro seen x hx
    match r with
    | .virt items => cases hx; rfl
    | .real (n, c) =>
      simp only [descAny] at hx
      split at hx
      · split at hx
        · cases hx
        · exact ih true x hx
      · rename_i e' he'
        cases hx
        exact hmt _ _ _ _ he'

theorem noCrash_searchStep (hmt : MtSafe mt) (hd : DscSafe dsc) (inv : Bool) (m : Method) (attr term : Str) (tl : Bool)
    (n : Node) (c : Ctx) : (searchStep mt dsc inv m attr term tl n c).NoCrash := by
  cases n with
  | scalar a v => exact noCrash_yieldIf _ _ (hmt _ _ _)
  | seq a items =>
    simp only [searchStep]
    split
    · exact noCrash_searchList hmt hd _ _ _ _ _ _ (fun ha x hx => aoh_elem ha (seqKidsFrom_mem hx))
    · exact noCrash_nil
  | set a ms => exact noCrash_searchNames hmt _ _ _ _
  | map a es =>
    simp only [searchStep, searchMap]
    split
    · exact noCrash_searchNames hmt _ _ _ _
    · split
      · exact noCrash_yieldIf _ _ (hmt _ _ _)
      · have := safe_descAny hmt inv m term _ (hd attr (.map a es) c) (dsc attr (.map a es) c).1 false
        split
        · exact noCrash_one _
        · exact noCrash_nil
        · exact noCrash_fail (this _ ‹_›)

theorem noCrash_walk {f : Node → Ctx → Gen NC} (hf : ∀ n c, (f n c).NoCrash) (n : Node) (c : Ctx) :
    (walk f n c).NoCrash := by
  rw [walk_eq]
  exact noCrash_bindList _ (fun x _ => hf x.1 x.2)

/-- The keyword segment `s` (if it is one) never ends in a crash outcome, at any node. -/
def KwOk (rt : Node) (s : ESeg) : Prop :=
  ∀ inv k p, s = .keyword inv k p → ∀ n c, (kwStep rt inv k p n c).NoCrash

theorem noCrash_stepSeg (hmt : MtSafe mt) (hd : DscSafe dsc) :
    ∀ (rest : List ESeg) (s : ESeg) (tl : Bool) (n : Node) (c : Ctx), KwOk rt s → (∀ s' ∈ rest, KwOk rt s') →
      (stepSeg mt dsc rt s rest tl n c).NoCrash
  | rest, s, tl, n, c, hk, hr => by
    cases s with
    | key k => rw [stepSeg_key]; exact noCrash_keyStep _ _ _ _
    | index i =>
      rw [stepSeg_index]
      cases n with
      | seq a items => exact noCrash_elemAt _ _ _
      | set a ms => exact noCrash_fail rfl
      | _ => exact noCrash_nil
    | slice lo hi => rw [stepSeg_slice]; exact noCrash_sliceStep _ _ _ _
    | anchor a => rw [stepSeg_anchor]; exact noCrash_ofList _
    | search inv m attr term => rw [stepSeg_search]; exact noCrash_searchStep hmt hd _ _ _ _ _ _ _
    | keyword inv k p => cases rest <;> exact hk _ _ _ rfl _ _
    | collector e op => cases rest <;> exact noCrash_fail rfl
    | unknown => cases rest <;> exact noCrash_fail rfl
    | matchAll =>
      cases rest with
      | nil => exact noCrash_ofList _
      | cons nxt rest' =>
        exact noCrash_filterFirst _ (fun (x : NC) _ =>
          noCrash_stepSeg hmt hd rest' nxt true x.1 x.2 (hr nxt List.mem_cons_self)
            (fun s' hs' => hr s' (List.mem_cons_of_mem _ hs')))
    | traverse =>
      cases rest with
      | nil =>
        refine noCrash_walk (fun m cm => ?_) _ _
        cases m with
        | scalar a v => exact noCrash_one _
        | set a ms => exact noCrash_ofList _
        | _ => exact noCrash_nil
      | cons nxt rest' =>
        refine noCrash_walk (fun m cm => noCrash_ifAny _ ?_) _ _
        unfold recursionGuard
        split
        · exact noCrash_fail rfl
        · exact noCrash_stepSeg hmt hd rest' nxt false m cm (hr nxt List.mem_cons_self)
            (fun s' hs' => hr s' (List.mem_cons_of_mem _ hs'))

theorem noCrash_stepRes (hmt : MtSafe mt) (hd : DscSafe dsc) (s : ESeg) (rest : List ESeg) (r : Res)
    (hk : ∀ s' ∈ s :: rest, KwOk rt s') : (stepRes mt dsc rt s rest r).NoCrash := by
  cases r with
  | real nc =>
    exact noCrash_stepSeg hmt hd rest s true nc.1 nc.2 (hk s List.mem_cons_self)
      (fun s' hs' => hk s' (List.mem_cons_of_mem _ hs'))
  | virt items =>
    show (stepVirt s items).NoCrash
    unfold stepVirt
    split
    · split
      · exact noCrash_map _ (noCrash_bindList _ (fun x _ => noCrash_keyStep _ _ _ _))
      · exact noCrash_fail rfl
    · exact noCrash_fail rfl

theorem noCrash_required (hmt : MtSafe mt) (hd : DscSafe dsc) :
    ∀ (segs : List ESeg), (∀ s ∈ segs, KwOk rt s) → ∀ (r : Res), (required mt dsc rt segs r).NoCrash := by
  intro segs
  induction segs with
  | nil => intro _ r; exact noCrash_one r
  | cons s rest ih =>
    intro hk r
    exact noCrash_bind (noCrash_stepRes hmt hd s rest r hk) (ih (fun s' hs' => hk s' (List.mem_cons_of_mem _ hs')))

theorem noCrash_optional (hmt : MtSafe mt) (hd : DscSafe dsc) :
    ∀ (segs : List ESeg), (∀ s ∈ segs, KwOk rt s) → ∀ (r : Res), (Eval.optional mt dsc rt segs r).NoCrash := by
  intro segs
  induction segs with
  | nil => intro _ r; exact noCrash_one r
  | cons s rest ih =>
    intro hk r
    simp only [Eval.optional]
    refine noCrash_append (noCrash_bind (noCrash_stepRes hmt hd s rest r hk) (fun x => ?_)) ?_
    · split
      · exact noCrash_one _
      · exact ih (fun s' hs' => hk s' (List.mem_cons_of_mem _ hs')) x
    · split
      · exact noCrash_fail rfl
      · exact noCrash_nil

end Eval

theorem dscSafe_none : DscSafe Desc.none := fun _ _ _ => Gen.noCrash_fail rfl

theorem dscSafe_ofParser {mt : Matcher} {rt : Node} (hmt : MtSafe mt) (pa : Str → Except Err (List ESeg))
    (hpa : ∀ a e, pa a = .error e → e.isCrash = false)
    (hk : ∀ a segs, pa a = .ok segs → ∀ s ∈ segs, Eval.KwOk rt s) : DscSafe (Desc.ofParser mt rt pa) := by
  intro a n c
  unfold Desc.ofParser
  split
  · rename_i segs hs
    exact Eval.noCrash_required hmt dscSafe_none _ (hk a segs hs) _
  · rename_i e he
    exact Gen.noCrash_fail (hpa a e he)

end Ypv
