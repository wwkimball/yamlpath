import Ypv.Lemmas.Eval
/-!
# Document lemmas: well-formedness, `get?`, located nodes (helpers of `Props/C01`, `Props/C02`)
-/
namespace Ypv

/-! ## Well-formed documents: the keys of a dict / members of a set are pairwise distinct
(which Python guarantees). -/
mutual
def Node.WF : Node → Prop
  | .scalar .. => True
  | .set _ ms => ms.Nodup
  | .seq _ items => WFList items
  | .map _ es => (es.map (·.1)).Nodup ∧ WFEntries es
def WFList : List Node → Prop
  | [] => True
  | n :: ns => n.WF ∧ WFList ns
def WFEntries : List (Key × Node) → Prop
  | [] => True
  | (_, n) :: es => n.WF ∧ WFEntries es
end

theorem wfList_mem {items : List Node} (h : WFList items) : ∀ n ∈ items, n.WF := by
  induction items with
  | nil => exact fun _ hn => nomatch hn
  | cons x xs ih => exact List.forall_mem_cons.mpr ⟨h.1, ih h.2⟩

theorem wfEntries_mem {es : List (Key × Node)} (h : WFEntries es) : ∀ kv ∈ es, kv.2.WF := by
  induction es with
  | nil => exact fun _ hn => nomatch hn
  | cons x xs ih => exact List.forall_mem_cons.mpr ⟨h.1, ih h.2⟩

theorem lookup_of_mem_nodup {es : List (Key × Node)} (h : (es.map (·.1)).Nodup) :
    ∀ kv ∈ es, es.lookup kv.1 = some kv.2 := by
  induction es with
  | nil => intro kv hkv; cases hkv
  | cons x xs ih =>
    intro kv hkv
    rw [List.map_cons, List.nodup_cons] at h
    cases hkv with
    | head => exact List.lookup_cons_self
    | tail _ hm =>
      have hne : (kv.1 == x.1) = false := beq_false_of_ne (fun he => h.1 (he ▸ List.mem_map_of_mem hm))
      rw [List.lookup_cons, hne]
      exact ih h.2 kv hm

theorem mem_of_lookup {es : List (Key × Node)} {k : Key} {v : Node} (h : es.lookup k = some v) : (k, v) ∈ es := by
  obtain ⟨l₁, l₂, rfl, _⟩ := List.lookup_eq_some_iff.mp h
  exact List.mem_append_right _ List.mem_cons_self

theorem Key.toNode_eq (k : Key) :
    Node.scalar none (match k with | .str s => .str s | .int i => .int i) = k.toNode := by
  cases k <;> rfl

theorem child?_set_member {a : Option Str} {ms : List Key} {k : Key} (h : k ∈ ms) :
    (Node.set a ms).child? (.member k) = some k.toNode := by
  simp only [Node.child?]
  rw [if_pos (List.contains_iff_mem.mpr h)]
  cases k <;> rfl

theorem child?_cases {n m : Node} {r : Ref} (h : n.child? r = some m) :
    (∃ a items i, n = .seq a items ∧ r = .idx i ∧ items[i]? = some m) ∨
    (∃ a es k, n = .map a es ∧ r = .key k ∧ es.lookup k = some m) ∨
    (∃ a ms k, n = .set a ms ∧ r = .member k ∧ k ∈ ms ∧ m = k.toNode) := by
  cases n with
  | scalar a v => cases r <;> cases h
  | seq a items =>
    cases r with
    | idx i => exact Or.inl ⟨a, items, i, rfl, rfl, h⟩
    | _ => cases h
  | map a es =>
    cases r with
    | key k => exact Or.inr (Or.inl ⟨a, es, k, rfl, rfl, h⟩)
    | _ => cases h
  | set a ms =>
    cases r with
    | member k =>
      simp only [Node.child?] at h
      split at h
      · rename_i hk
        cases h
        exact Or.inr (Or.inr ⟨a, ms, k, rfl, rfl, List.contains_iff_mem.mp hk, by cases k <;> rfl⟩)
      · cases h
    | _ => cases h

theorem wf_child {n m : Node} {r : Ref} (hn : n.WF) (h : n.child? r = some m) : m.WF := by
  rcases child?_cases h with ⟨a, items, i, rfl, rfl, h'⟩ | ⟨a, es, k, rfl, rfl, h'⟩ | ⟨a, ms, k, rfl, rfl, _, rfl⟩
  · exact wfList_mem hn m (List.mem_of_getElem? h')
  · exact wfEntries_mem hn.2 _ (mem_of_lookup h')
  · trivial

theorem ev_get?_append (n : Node) (a : Addr) (r : Ref) :
    n.get? (a ++ [r]) = (n.get? a).bind (fun m => m.child? r) := by
  induction a generalizing n with
  | nil =>
    cases h : n.child? r <;> simp [Node.get?, h]
  | cons x xs ih =>
    simp only [List.cons_append, Node.get?]
    cases n.child? x with
    | none => rfl
    | some c => exact ih c

namespace Eval
open Gen

/-- The reported reference `pr` designates the address step `r` inside `n`
(`parent[parentref]`, Python indexing for lists). -/
def prefOk (n : Node) (pr : PRef) (r : Ref) : Prop :=
  match n, pr, r with
  | .seq _ items, .idx i, .idx j => inRange items.length i = true ∧ normIdx items.length i = j
  | .map .., .key k, .key k' => k = k'
  | .set .., .member k, .member k' => k = k'
  | _, _, _ => False

/-- `n` with coordinates `c` is a located node of document `d`: the coordinates were built from the
root by child steps, each of which really leads from the parent node to the child node. -/
inductive Loc (d : Node) : Node → Ctx → Prop
  | root : Loc d d Ctx.root
  | child {n : Node} {c : Ctx} (r : Ref) (pr : PRef) (sec : Str) (m : Node) :
      Loc d n c → n.child? r = some m → prefOk n pr r → Loc d m (c.child r pr sec)

theorem Loc.get {d n : Node} {c : Ctx} (h : Loc d n c) : d.get? c.addr = some n := by
  induction h with
  | root => rfl
  | child r pr sec m _ hc _ ih => rw [Ctx.child, ev_get?_append, ih]; exact hc

theorem Loc.wf {d n : Node} {c : Ctx} (h : Loc d n c) (hd : d.WF) : n.WF := by
  induction h with
  | root => exact hd
  | child r pr sec m _ hc _ ih => exact wf_child ih hc

def AllLoc (d : Node) (g : Gen NC) : Prop := ∀ x ∈ g.1, Loc d x.1 x.2

/-- A result: located node, or a virtual list of located nodes. -/
def ResLoc (d : Node) : Res → Prop
  | .real nc => Loc d nc.1 nc.2
  | .virt items => ∀ x ∈ items, Loc d x.1 x.2

end Eval
end Ypv
