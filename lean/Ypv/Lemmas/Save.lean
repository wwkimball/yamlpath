import Ypv.Model.Save
/-!
# Lemmas about the abstract file system and the save sequences (C17)
-/
namespace Ypv.Save
open Ypv

theorem FS.set_same (fs : FS) (p : Str) (v : Option Bytes) : fs.set p v p = v := by
  simp [FS.set]

theorem FS.set_other (fs : FS) {p q : Str} (v : Option Bytes) (h : q ≠ p) : fs.set p v q = fs q := by
  simp [FS.set, h]

theorem run_nil (fs : FS) : run fs [] = fs := rfl

theorem run_cons (fs : FS) (s : Step) (l : List Step) : run fs (s :: l) = run (apply fs s) l := rfl

theorem run_append (fs : FS) (a b : List Step) : run fs (a ++ b) = run (run fs a) b := by
  simp [run, List.foldl_append]

theorem apply_frame (fs : FS) (s : Step) (p : Str) (h : s.writes ≠ some p) : apply fs s p = fs p := by
  cases s with
  | unlink q | creatTrunc q | append q _ => exact FS.set_other _ _ fun e => h (e ▸ rfl)
  | _ => rfl

theorem run_frame (p : Str) (l : List Step) (fs : FS) (h : ∀ s ∈ l, s.writes ≠ some p) : run fs l p = fs p := by
  induction l generalizing fs with
  | nil => rfl
  | cons s r ih =>
    rw [run_cons, ih _ (fun s' hs' => h s' (List.mem_cons_of_mem _ hs')), apply_frame _ _ _ (h s List.mem_cons_self)]

theorem run_readOnly : ∀ (l : List Step) (fs : FS), (∀ s ∈ l, s.writes = none) → run fs l = fs :=
  fun l fs h => funext fun p => run_frame p l fs fun s hs => by rw [h s hs]; nofun

theorem writes_ne {s : Step} {x y : Str} (hxy : x ≠ y) (h : s.writes = none ∨ s.writes = some x) :
    s.writes ≠ some y := by
  rintro e
  rcases h with h | h <;> rw [h] at e
  · cases e
  · exact hxy (Option.some.inj e)

theorem run_appends (p : Str) (cs : List Bytes) (fs : FS) (x : Bytes) (h : fs p = some x) :
    run fs (cs.map (.append p)) p = some (x ++ cs.flatten) := by
  induction cs generalizing fs x with
  | nil => simp [run_nil, h]
  | cons c r ih =>
    rw [List.map_cons, run_cons, ih (apply fs (.append p c)) (x ++ c)]
    · simp [List.append_assoc]
    · simp [apply, FS.set_same, h]

theorem run_creatTrunc_appends (fs : FS) (p : Str) (cs : List Bytes) :
    run fs (.creatTrunc p :: cs.map (.append p)) p = some cs.flatten :=
  run_appends p cs _ [] (FS.set_same fs p _)

theorem appends_writes (p : Str) (cs : List Bytes) : ∀ s ∈ cs.map (Step.append p), s.writes = some p := by
  intro s hs
  obtain ⟨c, _, rfl⟩ := List.mem_map.mp hs
  rfl

/-! ### open handles -/

theorem openWFrom_append (a b : List Step) (st : List Str) :
    openWFrom st (a ++ b) = openWFrom (openWFrom st a) b := by
  induction a generalizing st with
  | nil => rfl
  | cons s r ih => cases s <;> simp [openWFrom, ih]

theorem openW_append (a b : List Step) : openW (a ++ b) = openWFrom (openW a) b :=
  openWFrom_append a b []

theorem openWFrom_appends (p : Str) (cs : List Bytes) (st : List Str) :
    openWFrom st (cs.map (.append p)) = st := by
  induction cs with
  | nil => rfl
  | cons c r ih => exact ih

theorem not_mem_openWFrom {p : Str} (l : List Step) (st : List Str) (h : ∀ s ∈ l, s.writes ≠ some p)
    (hp : p ∉ st) : p ∉ openWFrom st l := by
  induction l generalizing st with
  | nil => exact hp
  | cons s r ih =>
    have hr := fun s' hs' => h s' (List.mem_cons_of_mem _ hs')
    cases s with
    | creatTrunc q =>
      exact ih _ hr (List.not_mem_cons_of_ne_of_not_mem (fun e => h _ List.mem_cons_self (e ▸ rfl)) hp)
    | close q => exact ih _ hr (fun hm => hp (List.mem_filter.mp hm).1)
    | _ => exact ih _ hr hp

theorem cleanup_frame (done cl : List Step) (p : Str) (hc : Cleanup done cl)
    (hp : p ∉ openW done) (fs : FS) : run fs cl p = fs p := by
  refine run_frame p cl fs fun s hs => ?_
  obtain ⟨q, hq, ⟨c, rfl⟩ | rfl⟩ := hc s hs
  · exact fun e => hp (Option.some.inj e ▸ hq)
  · nofun

theorem cleanup_nil_of_closed (done cl : List Step) (hc : Cleanup done cl) (h : openW done = []) : cl = [] := by
  cases cl with
  | nil => rfl
  | cons s r =>
    obtain ⟨q, hq, _⟩ := hc s (List.mem_cons_self ..)
    rw [h] at hq; cases hq

/-! ### the backup block and the write part: what they write, leave open, and leave behind -/

theorem bakOf_ne (t : Str) : t ≠ bakOf t := by
  intro h
  have := congrArg List.length h
  simp [bakOf] at this

theorem copy2_writes (src dst : Str) (cs : List Bytes) :
    ∀ s ∈ copy2 src dst cs, s.writes = none ∨ s.writes = some dst := by
  intro s hs
  simp only [copy2, List.mem_append, List.mem_cons, List.mem_map, List.not_mem_nil, or_false] at hs
  rcases hs with ((rfl | rfl) | ⟨c, _, rfl⟩) | (rfl | rfl | rfl) <;> simp [Step.writes]

theorem backupSteps_writes (saw : Bool) (t : Str) (oc : List Bytes) :
    ∀ s ∈ backupSteps saw t oc, s.writes = none ∨ s.writes = some (bakOf t) := by
  intro s hs
  simp only [backupSteps, List.mem_append, List.mem_cons, List.not_mem_nil, or_false] at hs
  rcases hs with (rfl | h) | h
  · simp [Step.writes]
  · split at h
    · simp at h; subst h; simp [Step.writes]
    · cases h
  · exact copy2_writes _ _ _ s h

theorem writeSteps_writes (t : Str) (nc : List Bytes) :
    ∀ s ∈ writeSteps t nc, s.writes = none ∨ s.writes = some t := by
  intro s hs
  simp only [writeSteps, List.mem_append, List.mem_cons, List.mem_map, List.not_mem_nil, or_false] at hs
  rcases hs with (rfl | ⟨c, _, rfl⟩) | rfl <;> simp [Step.writes]

theorem writePart_writes (w : Writer) (t : Str) (nc : List Bytes) :
    ∀ s ∈ writePart w t nc, s.writes = none ∨ s.writes = some t := by
  intro s hs
  cases w <;> simp only [writePart, List.mem_cons] at hs
  · rcases hs with rfl | hs
    · simp [Step.writes]
    · exact writeSteps_writes _ _ _ hs
  all_goals exact writeSteps_writes _ _ _ hs

theorem openWFrom_copy2 (src dst : Str) (cs : List Bytes) (st : List Str) :
    openWFrom st (copy2 src dst cs) = st.filter (fun q => q ≠ dst) := by
  simp [copy2, openWFrom, openWFrom_append, openWFrom_appends]

theorem openW_backupSteps (saw : Bool) (t : Str) (oc : List Bytes) : openW (backupSteps saw t oc) = [] := by
  unfold backupSteps
  rw [openW_append, openWFrom_copy2]
  cases saw <;> rfl

theorem openWFrom_writeSteps (t : Str) (nc : List Bytes) (st : List Str) :
    openWFrom st (writeSteps t nc) = st.filter (fun q => q ≠ t) := by
  simp [writeSteps, openWFrom, openWFrom_append, openWFrom_appends]

/-- After `copy2 src dst` with the chunks `cs`, `dst` holds `cs.flatten`. -/
theorem run_copy2 (fs : FS) (src dst : Str) (cs : List Bytes) :
    run fs (copy2 src dst cs) dst = some cs.flatten := by
  unfold copy2
  rw [run_append]
  -- the steps before the `creatTrunc` and after the last chunk evaluate away
  exact run_creatTrunc_appends _ dst cs

/-- The backup block leaves a complete copy of the pre-image in the backup file, whatever the
backup path held before. -/
theorem run_backupSteps (fs : FS) (saw : Bool) (t : Str) (oc : List Bytes) :
    run fs (backupSteps saw t oc) (bakOf t) = some oc.flatten := by
  unfold backupSteps
  rw [run_append]
  exact run_copy2 _ _ _ _

theorem run_writeSteps (fs : FS) (t : Str) (nc : List Bytes) :
    run fs (writeSteps t nc) t = some nc.flatten := by
  unfold writeSteps
  rw [run_append]
  exact run_creatTrunc_appends fs t nc

theorem run_writePart (fs : FS) (w : Writer) (t : Str) (nc : List Bytes) :
    run fs (writePart w t nc) t = some nc.flatten := by
  cases w <;> exact run_writeSteps _ t nc

/-! ### the two-phase argument -/

/-- `A` only touches `b` and ends with every handle closed and `b` holding `orig`; `C` only
touches `t`.  Then wherever `A ++ C` is cut, and whatever the unwinding flushes afterwards, `t`
or `b` holds `orig`. -/
theorem two_phase (fs : FS) (t b : Str) (orig : Bytes) (A C : List Step)
    (htb : t ≠ b) (ht : fs t = some orig)
    (hA : ∀ s ∈ A, s.writes = none ∨ s.writes = some b)
    (hC : ∀ s ∈ C, s.writes = none ∨ s.writes = some t)
    (hAo : openW A = []) (hAb : run fs A b = some orig)
    (k : Nat) (cl : List Step) (hcl : Cleanup ((A ++ C).take k) cl) :
    runFault fs (A ++ C) k cl t = some orig ∨ runFault fs (A ++ C) k cl b = some orig := by
  unfold runFault
  by_cases hk : k ≤ A.length
  · -- the fault is inside the backup block (or at the first step after it)
    left
    rw [List.take_append_of_le_length hk] at hcl ⊢
    have hk' : ∀ s ∈ A.take k, s.writes ≠ some t := fun s hs => writes_ne htb.symm (hA s (List.mem_of_mem_take hs))
    rw [cleanup_frame _ _ _ hcl (not_mem_openWFrom _ [] hk' nofun), run_frame t _ _ hk']
    exact ht
  · -- the backup block is complete
    right
    rw [List.take_append, List.take_of_length_le (Nat.le_of_not_le hk)] at hcl ⊢
    have hk' : ∀ s ∈ C.take (k - A.length), s.writes ≠ some b := fun s hs => writes_ne htb (hC s (List.mem_of_mem_take hs))
    have hnot : b ∉ openW (A ++ C.take (k - A.length)) := by
      rw [openW_append, hAo]
      exact not_mem_openWFrom _ [] hk' nofun
    rw [cleanup_frame _ _ _ hcl hnot, run_append, run_frame b _ _ hk']
    exact hAb

/-! ### how a tool run can end -/

theorem all_readOnly {l : List Step} : l.all Step.readOnly = true ↔ ∀ s ∈ l, s.writes = none := by
  simp only [List.all_eq_true, Step.readOnly, Option.isNone_iff_eq_none]

/-- yaml-set stops before the save having only read, or takes the restore exit of the YAML writer,
or succeeds.  Walks the phases in order: with the flags up to a phase fixed, the run evaluates. -/
theorem runSet_cases (o : Oracle) (fs : FS) (json backup : Bool) (t : Str) (oc nc rc : List Bytes) :
    let r := runSet o fs json backup t oc nc rc
    (r.phase.beforeSave = true ∧ r.trace.all Step.readOnly = true)
      ∨ (r.exit = 3 ∧ r.phase = .save ∧ json = false) ∨ r.exit = 0 := by
  obtain ⟨args, valid, load, query, check, apply, _, dump, _⟩ := o
  cases args; · exact .inl ⟨rfl, rfl⟩
  cases valid; · exact .inl ⟨rfl, rfl⟩
  cases load; · exact .inl ⟨rfl, rfl⟩
  cases query; · exact .inl ⟨rfl, rfl⟩
  cases check; · exact .inl ⟨rfl, rfl⟩
  cases apply; · exact .inl ⟨rfl, rfl⟩
  cases json
  · cases dump
    · exact .inr (.inl ⟨rfl, rfl, rfl⟩)
    · exact .inr (.inr rfl)
  · exact .inr (.inr rfl)

theorem reads_readOnly (ins : List Str) :
    (ins.flatMap fun p => [Step.stat p, .openRead p]).all Step.readOnly = true := by
  induction ins with
  | nil => rfl
  | cons p ps ih => exact ih

theorem runMerge_cases (o : Oracle) (fs : FS) (dest : Dest) (ins : List Str) (mergeExit : Nat)
    (oc nc : List Bytes) :
    let r := runMerge o fs dest ins mergeExit oc nc
    (r.phase.beforeSave = true ∧ r.trace.all Step.readOnly = true) ∨ r.exit = 0 := by
  obtain ⟨args, valid, load, _, _, apply, render, _, _⟩ := o
  cases args; · exact .inl ⟨rfl, rfl⟩
  cases valid; · exact .inl ⟨rfl, by cases dest <;> rfl⟩
  have ro := reads_readOnly ins
  cases dest with
  | output out =>
    -- bring `(fs out).isSome` into sight
    unfold runMerge
    dsimp only
    cases (fs out).isSome
    · cases load; · exact .inl ⟨rfl, ro⟩
      cases apply; · exact .inl ⟨rfl, ro⟩
      cases render; · exact .inl ⟨rfl, ro⟩
      exact .inr rfl
    · exact .inl ⟨rfl, rfl⟩
  | _ =>
    cases load; · exact .inl ⟨rfl, ro⟩
    cases apply; · exact .inl ⟨rfl, ro⟩
    cases render; · exact .inl ⟨rfl, ro⟩
    exact .inr rfl

end Ypv.Save
