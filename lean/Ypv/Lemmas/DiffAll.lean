import Ypv.Lemmas.Diff
/-!
# C06: `clean ⇔ data-equal` at DOCUMENT level for every array mode × every AoH mode

`idOk c l r` (Spec/Diff.lean) states, pair by pair along the recursion of `_diff_between`, that every left record of
a synchronised list carries the identity key and no two right records share an identity value.  It is threaded
through that recursion (`clean_iff_all_node`); the statements for the modes without identity keys and for
`--aoh key` by position are instances (end of the file).

* mappings and positionally compared lists: `clean_dictK`, `clean_posK` hand `idOk` down to the pairs;
* value-synchronised lists (also inside the identity-key modes, `--arrays value` with `--aoh key|deep`): a matched
  pair of `==`-equal elements is compared again; that comparison is clean because `==`-equal documents are
  equal as data (`dataEq_of_eqv_node`) and clean ⇔ data-equal
  holds for the pair by induction (`clean_valueK`);
* `--aoh key` / `--aoh deep`: `keysync_clean_iff` is the lockstep induction over `synchronize_lods_by_key` for an
  arbitrary pair relation `R` that implies `keyMatch` (for `key`: `eqv`, `key_clean_iff_msEq`; for `deep`: `dataEq c`,
  by `keyMatch_of_dataEq` — identity values are scalars — with the pair's diff in place of `scalarEntry`);
  `dataEqMs_eq_msEq` reads the recursive `dataEqMs` as the greedy `msEq (dataEq c)`.
-/
namespace Ypv.Diff.KeyDoc
open Ypv Ypv.Diff Ypv.Diff.Proofs

/-- positional arrays, records synchronised by identity key -/
def KeyPos (c : Cfg) : Prop := c.arr = .position ∧ c.aoh = .key

instance (c : Cfg) : Decidable (KeyPos c) := by unfold KeyPos; exact inferInstance

end Ypv.Diff.KeyDoc

namespace Ypv.Diff.AllModes
open Ypv Ypv.Diff Ypv.Diff.Proofs Ypv.Diff.KeyDoc

/-! ## the greedy multiset comparison -/

theorem dataEqMs_eq_msEq (c : Cfg) : ∀ (xs ys : List Node),
    dataEqMs c xs ys = msEq (fun x y => dataEq c x y) xs ys := by
  intro xs
  induction xs with
  | nil => intro ys; simp [dataEqMs, msEq]
  | cons x xs ih =>
    intro ys
    simp only [dataEqMs, msEq]
    cases removeFirstNode (fun y => dataEq c x y) ys with
    | none => rfl
    | some ys' => exact ih ys'

/-! ## the lockstep induction of the identity-key synchroniser, for any pair relation -/

/-- **One list level of `--aoh key` / `--aoh deep`**: if the pair relation `R` of the specification implies
"same identity value", the entries of an identity-matched pair are clean exactly when `R` holds of it, and
no two right records share an identity value, then the report of the synchronised lists is clean exactly
when the greedy multiset comparison under `R` succeeds. -/
theorem keysync_clean_iff (s : Bool) (c : Cfg) (q : Addr) (deep : Bool) (ka : Key) (R : Node → Node → Bool) :
    ∀ (xs : List Node) (i : Nat) (rem : List (Nat × Node)),
    (∀ x ∈ xs, wf x = true) → (∀ y ∈ rem, wf y.2 = true) →
    (∀ x ∈ xs, ∀ y ∈ rem, R x y.2 = true → keyMatch ka x y.2 = true) →
    (∀ x ∈ xs, ∀ y ∈ rem, keyMatch ka x y.2 = true → ∀ i : Nat,
      clean (if deep then diffBetween s c (q ++ [.idx y.1]) x y.2 else [scalarEntry (q ++ [.idx i]) x y.2]) = R x y.2) →
    (rem.map (fun p => p.2)).Pairwise (fun a b => keyMatch ka a b = false) →
    clean (diffKey s c q deep ka i xs rem) = msEq R xs (rem.map (fun p => p.2)) := by
  intro xs
  induction xs with
  | nil => intro i rem _ _ _ _ _; cases rem <;> rfl
  | cons x xs ih =>
    intro i rem hwx hwr hR hE hpw
    rw [List.forall_mem_cons] at hwx hR hE
    have hRx : ∀ p ∈ rem, keyMatch ka x p.2 = false → R x p.2 = false := fun p hp hk =>
      Bool.eq_false_iff.mpr (fun he => by rw [hR.1 p hp he] at hk; cases hk)
    unfold diffKey
    simp only [msEq]
    cases hrf : removeFirst (keyMatch ka x) rem with
    | none =>
      rw [removeFirstNode_eq_none_iff.mpr (List.forall_mem_map.mpr (fun p hp => hRx p hp (removeFirst_none hrf p hp)))]
      rfl
    | some r =>
      obtain ⟨y, rem'⟩ := r
      obtain ⟨pre, post, rfl, rfl, hpre, hy⟩ := removeFirst_split hrf
      have hs : (pre ++ post).Sublist (pre ++ y :: post) := (List.sublist_cons_self y post).append_left pre
      have hym : y ∈ pre ++ y :: post := by simp
      -- `y` is the only record left whose identity value is that of `x`: none before it (first match), none after
      -- it (it would share its identity value with `y`)
      have hpost : ∀ z ∈ post, keyMatch ka x z.2 = false := fun z hz =>
        Bool.eq_false_iff.mpr (fun hm => by
          have hyz := keyMatch_common hwx.1 (hwr y hym) (hwr z (by simp [hz])) hy hm
          rw [List.map_append, List.map_cons] at hpw
          rw [(List.pairwise_cons.mp (List.pairwise_append.mp hpw).2.1).1 z.2 (List.mem_map_of_mem hz)] at hyz
          cases hyz)
      have hno : ∀ z ∈ pre.map (fun p => p.2) ++ post.map (fun p => p.2), R x z = false := by
        rw [← List.map_append]
        refine List.forall_mem_map.mpr (fun p hp => hRx p (hs.subset hp) ?_)
        exact (List.mem_append.mp hp).elim (hpre p) (hpost p)
      rw [clean_append, hE.1 y hym hy i, List.map_append, List.map_cons, removeFirstNode_only _ _ _ hno, ← List.map_append,
        ih (i + 1) (pre ++ post) hwx.2 (fun z hz => hwr z (hs.subset hz)) (fun u hu v hv => hR.2 u hu v (hs.subset hv))
          (fun u hu v hv => hE.2 u hu v (hs.subset hv)) (hpw.sublist (hs.map _))]
      cases R x y.2 <;> rfl

end Ypv.Diff.AllModes

namespace Ypv.Diff.Proofs
open Ypv Ypv.Diff

/-- **One list level of `--aoh key`**: when every left record carries the identity key and no two
right records share an identity value, the KEY report of the two record lists is clean exactly when
the lists are equal as multisets of `==`-equal records (the specification's `dataEq` for this mode).
Without the hypotheses the statement fails on the code (finding C06-K2). -/
theorem key_clean_iff_msEq (s : Bool) (c : Cfg) (q : Addr) (ka : Key) : ∀ (xs : List Node) (i : Nat) (rem : List (Nat × Node)),
    (∀ x ∈ xs, wf x = true) → (∀ y ∈ rem, wf y.2 = true) → (∀ x ∈ xs, hasIdentity ka x = true) →
    (rem.map (fun p => p.2)).Pairwise (fun a b => keyMatch ka a b = false) →
    clean (diffKey s c q false ka i xs rem) = msEq (fun x y => eqv x y) xs (rem.map (fun p => p.2)) :=
  fun xs i rem hwx hwr hid hpw =>
    AllModes.keysync_clean_iff s c q false ka (fun x y => eqv x y) xs i rem hwx hwr
      (fun x hx y hy he => keyMatch_of_eqv (hwx x hx) (hwr y hy) he (hid x hx))
      (fun x _ y _ _ j => clean_scalarEntry (q ++ [.idx j]) x y.2) hpw

/-- `key_clean_iff_msEq` at the root of two documents that are record lists compared under
`--aoh key`: the report (of the code and of the strict variant) is clean exactly when the two
lists are equal as data. -/
theorem diff_clean_iff_dataEq_key_root (s : Bool) (c : Cfg) (a b : Option Str) (xs ys : List Node)
    (hm : listMode c xs ys = .key) (hl : wf (.seq a xs) = true) (hr : wf (.seq b ys) = true)
    (hid : ∀ x ∈ xs, hasIdentity (keyAttr ys) x = true)
    (hpw : ys.Pairwise (fun u v => keyMatch (keyAttr ys) u v = false)) :
    clean (diff s c (.seq a xs) (.seq b ys)) = dataEq c (.seq a xs) (.seq b ys) := by
  unfold diff diffBetween dataEq
  simp only [hm]
  simpa only [enumFrom_snd] using key_clean_iff_msEq s c [] (keyAttr ys) xs 0 (enumFrom 0 ys) (wf_seq_mem hl)
    (fun y hy => wf_seq_mem hr y.2 (mem_enumFrom hy)) hid (by rw [enumFrom_snd]; exact hpw)

end Ypv.Diff.Proofs

namespace Ypv.Diff.AllModes
open Ypv Ypv.Diff Ypv.Diff.Proofs Ypv.Diff.KeyDoc

/-! ## `idOk` handed down to the pairs; data-equal hashes: identity, entries, `keyMatch` -/

theorem pairwise_of_noIdClash (ka : Key) : ∀ (ys : List Node), noIdClash ka ys = true →
    ys.Pairwise (fun u v => keyMatch ka u v = false) := by
  intro ys
  induction ys with
  | nil => intro _; exact List.Pairwise.nil
  | cons y ys ih =>
    intro h
    simp only [noIdClash, Bool.and_eq_true, List.all_eq_true, Bool.not_eq_true'] at h
    exact List.Pairwise.cons (fun z hz => h.1 z hz) (ih h.2)

theorem idOkVal_mem {c : Cfg} : ∀ {xs ys : List Node}, idOkVal c xs ys = true →
    ∀ x ∈ xs, ∀ y ∈ ys, eqv y x = true → idOk c x y = true := by
  intro xs
  induction xs with
  | nil => intro _ _ x hx; cases hx
  | cons u us ih =>
    intro ys h x hx y hy he
    unfold idOkVal at h
    simp only [Bool.and_eq_true, List.all_eq_true] at h
    cases hx with
    | head => simpa [he] using h.1 y hy
    | tail _ hx' => exact ih h.2 x hx' y hy he

theorem idOkDeep_mem {c : Cfg} {ka : Key} : ∀ {xs ys : List Node}, idOkDeep c ka xs ys = true →
    ∀ x ∈ xs, ∀ y ∈ ys, keyMatch ka x y = true → idOk c x y = true := by
  intro xs
  induction xs with
  | nil => intro _ _ x hx; cases hx
  | cons u us ih =>
    intro ys h x hx y hy he
    unfold idOkDeep at h
    simp only [Bool.and_eq_true, List.all_eq_true] at h
    cases hx with
    | head => simpa [he] using h.1 y hy
    | tail _ hx' => exact ih h.2 x hx' y hy he

theorem hasIdentity_of_scalar {ka : Key} {x : Node} (h : hasScalarIdentity ka x = true) : hasIdentity ka x = true := by
  unfold hasScalarIdentity at h
  unfold hasIdentity
  cases hk : keyVal ka x with
  | none => rw [hk] at h; cases h
  | some v => rfl

theorem dataEq_kind {c : Cfg} {l r : Node} (h : dataEq c l r = true) : kind l = kind r := by
  cases l with
  | scalar a v => cases r with | scalar b w => rfl | _ => unfold dataEq at h; cases h
  | seq a xs => cases r with | seq b ys => rfl | _ => unfold dataEq at h; cases h
  | map a es => cases r with | map b fs => rfl | _ => unfold dataEq at h; cases h
  | set a ms => cases r with | set b ns => rfl | _ => unfold dataEq at h; cases h

theorem dataEqEntries_mem {c : Cfg} : ∀ {es fs : List (Key × Node)}, dataEqEntries c es fs = true →
    ∀ kv ∈ es, ∃ w, fs.lookup kv.1 = some w ∧ dataEq c kv.2 w = true := by
  intro es
  induction es with
  | nil => intro _ _ kv h; cases h
  | cons e es ih =>
    obtain ⟨k, v⟩ := e
    intro fs h kv hkv
    unfold dataEqEntries at h
    simp only [Bool.and_eq_true] at h
    cases hkv with
    | head =>
      cases hf : fs.lookup k with
      | none => rw [hf] at h; cases h.1
      | some w => rw [hf] at h; exact ⟨w, rfl, h.1⟩
    | tail _ hkv' => exact ih h.2 kv hkv'

/-- records that are equal as data carry equal identity values — when the identity value is a scalar
(a container identity value may be equal as data without being `==`: finding C06-K2's class) -/
theorem keyMatch_of_dataEq {c : Cfg} {ka : Key} {x y : Node} (hs : hasScalarIdentity ka x = true)
    (hd : dataEq c x y = true) : keyMatch ka x y = true := by
  cases x with
  | map a es =>
    cases y with
    | map b fs =>
      unfold dataEq at hd
      simp only [Bool.and_eq_true] at hd
      simp only [hasScalarIdentity, keyVal] at hs
      cases hk : es.lookup ka with
      | none => rw [hk] at hs; cases hs
      | some v =>
        rw [hk] at hs
        cases v with
        | scalar a' sv =>
          obtain ⟨w, hw, hvw⟩ := dataEqEntries_mem hd.1 (ka, .scalar a' sv) (mem_of_lookup hk)
          simp only at hw hvw
          cases w with
          | scalar b' sw =>
            unfold dataEq at hvw
            simp only [beq_iff_eq] at hvw
            simp only [keyMatch, keyVal, hk, hw, eqv, beq_iff_eq]
            exact hvw.symm
          | _ => cases dataEq_kind hvw
        | _ => cases hs
    | _ => cases dataEq_kind hd
  | _ => simp [hasScalarIdentity, keyVal] at hs

/-! ## documents equal under `==` are equal as data (every mode, under `idOk`) -/

def DataEqOfEqvAt (c : Cfg) (x : Node) : Prop :=
  ∀ y, wf x = true → wf y = true → eqv y x = true → idOk c x y = true → dataEq c x y = true

theorem dataEqPos_of_eqv (c : Cfg) : ∀ (xs ys : List Node), (∀ x ∈ xs, DataEqOfEqvAt c x) →
    (∀ x ∈ xs, wf x = true) → (∀ y ∈ ys, wf y = true) → eqvList ys xs = true → idOkPos c xs ys = true →
    dataEqPos c xs ys = true := by
  intro xs
  induction xs with
  | nil =>
    intro ys _ _ _ h _
    cases ys with
    | nil => simp only [dataEqPos]
    | cons y ys => cases h
  | cons x xs ih =>
    intro ys hih hwx hwy h hid
    cases ys with
    | nil => cases h
    | cons y ys =>
      rw [List.forall_mem_cons] at hih hwx hwy
      unfold eqvList at h
      simp only [Bool.and_eq_true] at h
      unfold idOkPos at hid
      simp only [Bool.and_eq_true] at hid
      unfold dataEqPos
      simp only [Bool.and_eq_true]
      exact ⟨hih.1 y hwx.1 hwy.1 h.1 hid.1, ih ys hih.2 hwx.2 hwy.2 h.2 hid.2⟩

theorem dataEqEntries_of_eqv (c : Cfg) (fs : List (Key × Node)) : ∀ (es : List (Key × Node)),
    (∀ kv ∈ es, ∃ w, fs.lookup kv.1 = some w ∧ wf w = true ∧ eqv w kv.2 = true) →
    (∀ kv ∈ es, DataEqOfEqvAt c kv.2) → (∀ kv ∈ es, wf kv.2 = true) → idOkEntries c es fs = true →
    dataEqEntries c es fs = true := by
  intro es
  induction es with
  | nil => intro _ _ _ _; simp [dataEqEntries]
  | cons e es ih =>
    obtain ⟨k, v⟩ := e
    intro hl hih hw hid
    rw [List.forall_mem_cons] at hl hih hw
    obtain ⟨w, hw1, hw2, hw3⟩ := hl.1
    simp only at hw1
    unfold idOkEntries at hid
    simp only [hw1, Bool.and_eq_true] at hid
    unfold dataEqEntries
    simp only [hw1, Bool.and_eq_true]
    exact ⟨hih.1 w hw.1 hw2 hw3 hid.1, ih hl.2 hih.2 hw.2 hid.2⟩

theorem dataEq_of_eqv_node (c : Cfg) : ∀ (x : Node), DataEqOfEqvAt c x := by
  intro x y
  induction x, y using pairInduct with
  | hscalar a v b w =>
    intro _ _ h _
    unfold eqv at h
    simp only [beq_iff_eq] at h
    unfold dataEq
    simp only [beq_iff_eq]
    exact h.symm
  | hset a ms b ns =>
    intro _ _ h _
    unfold eqv at h
    simp only [Bool.and_eq_true] at h
    unfold dataEq
    simp only [Bool.and_eq_true]
    exact ⟨h.2, h.1⟩
  | hmap a es b fs ih =>
    intro hx hy h hid
    obtain ⟨hd, hv⟩ := wf_map hx
    obtain ⟨hd', hv'⟩ := wf_map hy
    obtain ⟨hp, hk⟩ := eqv_map_partner hd hd' h
    unfold idOk at hid
    unfold dataEq
    simp only [Bool.and_eq_true]
    constructor
    · exact dataEqEntries_of_eqv c fs es
        (fun kv hkv => let ⟨w, hw, he⟩ := hp kv hkv; ⟨w, hw, hv' _ (mem_of_lookup hw), he⟩) ih hv hid
    · rw [List.all_eq_true]
      exact hk
  | hseq a xs b ys ih =>
    intro hx hy h hid
    have hwx := wf_seq_mem hx
    have hwy := wf_seq_mem hy
    unfold eqv at h
    unfold idOk at hid
    unfold dataEq
    cases hm : listMode c xs ys with
    | nothing => rfl
    | posShallow =>
      exact eqvList_symm ys xs (fun y _ r => eqv_symm y r) hwy hwx h
    | posDeep =>
      rw [hm] at hid
      exact dataEqPos_of_eqv c xs ys ih hwx hwy h hid
    | value => exact msEq_of_eqvList _ xs ys (fun _ _ _ _ he => he) h
    | key => exact msEq_of_eqvList _ xs ys (fun u hu v hv he => eqv_symm v u (hwy v hv) (hwx u hu) he) h
    | deep =>
      rw [hm] at hid
      simp only [Bool.and_eq_true, List.all_eq_true] at hid
      obtain ⟨⟨hsc, _⟩, hdp⟩ := hid
      show dataEqMs c xs ys = true
      rw [dataEqMs_eq_msEq]
      refine msEq_of_eqvList _ xs ys (fun u hu v hv he => ?_) h
      exact ih u hu v (hwx u hu) (hwy v hv) he (idOkDeep_mem hdp u hu v hv
        (keyMatch_of_eqv (hwx u hu) (hwy v hv) (eqv_symm v u (hwy v hv) (hwx u hu) he)
          (hasIdentity_of_scalar (hsc u hu))))
  | hclash x y hk => exact fun _ _ h _ => absurd (eqv_kind h).symm hk

/-! ## clean ⇔ equal as data, every mode -/

def CleanIffAtK (c : Cfg) (x : Node) : Prop :=
  ∀ r q, wf x = true → wf r = true → idOk c x r = true → clean (diffBetween true c q x r) = dataEq c x r

theorem clean_posK (c : Cfg) (q : Addr) : ∀ (xs ys : List Node) (i : Nat),
    (∀ x ∈ xs, CleanIffAtK c x) → (∀ x ∈ xs, wf x = true) → (∀ y ∈ ys, wf y = true) →
    idOkPos c xs ys = true →
    clean (diffPos true c q i xs ys) = dataEqPos c xs ys := by
  intro xs
  induction xs with
  | nil => intro ys i _ _ _ _; cases ys <;> simp [diffPos, dataEqPos, addSeq, mkAdd]
  | cons x xs ih =>
    intro ys i hih hwx hwy hid
    cases ys with
    | nil => simp [diffPos, dataEqPos, mkDel]
    | cons y ys =>
      rw [List.forall_mem_cons] at hih hwx hwy
      unfold idOkPos at hid
      simp only [Bool.and_eq_true] at hid
      unfold diffPos
      simp only [clean_append, dataEqPos]
      rw [hih.1 y _ hwx.1 hwy.1 hid.1, ih ys (i + 1) hih.2 hwx.2 hwy.2 hid.2]

theorem clean_dictK (c : Cfg) (q : Addr) (fs : List (Key × Node)) (hwf : ∀ kv ∈ fs, wf kv.2 = true) :
    ∀ (es : List (Key × Node)), (∀ kv ∈ es, CleanIffAtK c kv.2) → (∀ kv ∈ es, wf kv.2 = true) →
    idOkEntries c es fs = true →
    clean (diffDict true c q es fs) = dataEqEntries c es fs := by
  intro es
  induction es with
  | nil => intro _ _ _; simp [diffDict, dataEqEntries]
  | cons kv es ih =>
    obtain ⟨k, v⟩ := kv
    intro hih hw hid
    rw [List.forall_mem_cons] at hih hw
    unfold idOkEntries at hid
    simp only [Bool.and_eq_true] at hid
    unfold diffDict
    simp only [clean_append, dataEqEntries]
    rw [ih hih.2 hw.2 hid.2]
    congr 1
    cases hf : fs.lookup k with
    | some w =>
      have h1 := hid.1
      rw [hf] at h1
      exact hih.1 w _ hw.1 (hwf (k, w) (mem_of_lookup hf)) h1
    | none => rfl

/-- the value-synchronised loop inside any mode: a matched pair of `==`-equal elements is compared again
and that comparison is clean (`dataEq_of_eqv_node` + the induction hypothesis for the pair) -/
theorem clean_valueK (c : Cfg) (q : Addr) : ∀ (xs : List Node) (i : Nat) (rem : List (Nat × Node)),
    (∀ x ∈ xs, CleanIffAtK c x) → (∀ x ∈ xs, wf x = true) → (∀ y ∈ rem, wf y.2 = true) →
    (∀ x ∈ xs, ∀ y ∈ rem, eqv y.2 x = true → idOk c x y.2 = true) →
    (clean (diffValue true c q i xs rem).1 && (diffValue true c q i xs rem).2.isEmpty)
      = msEq (fun x y => eqv y x) xs (rem.map (fun p => p.2)) := by
  intro xs
  induction xs with
  | nil => intro i rem _ _ _ _; cases rem <;> rfl
  | cons x xs ih =>
    intro i rem hih hwx hwr hid
    unfold diffValue
    simp only [msEq, removeFirstNode_map]
    cases hrf : removeFirst (fun y => eqv y x) rem with
    | none => rfl
    | some r =>
      obtain ⟨y, rem'⟩ := r
      obtain ⟨hperm, hfy⟩ := removeFirst_perm hrf
      rw [List.forall_mem_cons] at hih hwx hid
      obtain ⟨hwy, hwr'⟩ := List.forall_mem_cons.mp (fun z hz => hwr z (hperm.symm.subset hz))
      have hok := hid.1 y (hperm.symm.subset (List.mem_cons_self ..)) hfy
      simp only [Option.map_some, clean_append]
      rw [hih.1 y.2 _ hwx.1 hwy hok, dataEq_of_eqv_node c x y.2 hwx.1 hwy hfy hok, Bool.true_and]
      exact ih (i + 1) rem' hih.2 hwx.2 hwr'
        (fun u hu v hv => hid.2 u hu v (hperm.symm.subset (List.mem_cons_of_mem _ hv)))

theorem clean_iff_all_node (c : Cfg) : ∀ (l : Node), CleanIffAtK c l := by
  intro l r
  induction l, r using pairInduct with
  | hscalar a v b w =>
    intro q _ _ _
    unfold diffBetween dataEq
    exact clean_scalarEntry ..
  | hset a ms b ns =>
    intro q _ _ _
    unfold diffBetween dataEq
    exact clean_set q ms ns
  | hmap a es b fs ih =>
    intro q hl hr hid
    unfold idOk at hid
    unfold diffBetween
    unfold dataEq
    simp only [clean_append]
    rw [clean_dictK c q fs (wf_map hr).2 es ih (wf_map hl).2 hid, clean_adds]
  | hseq a xs b ys ih =>
    intro q hl hr hid
    have hwx := wf_seq_mem hl
    have hwy := wf_seq_mem hr
    have hwe : ∀ y ∈ enumFrom 0 ys, wf y.2 = true := fun y hy => hwy y.2 (mem_enumFrom hy)
    unfold idOk at hid
    unfold diffBetween dataEq
    cases hm : listMode c xs ys with
    | nothing => rfl
    | posShallow => exact clean_shallow q xs ys 0
    | posDeep =>
      rw [hm] at hid
      exact clean_posK c q xs ys 0 ih hwx hwy hid
    | value =>
      rw [hm] at hid
      simp only [clean_mergeAdds]
      simpa only [enumFrom_snd] using clean_valueK c q xs 0 (enumFrom 0 ys) ih hwx hwe
        (fun u hu v hv he => idOkVal_mem hid u hu v.2 (mem_enumFrom hv) he)
    | key =>
      rw [hm] at hid
      simp only [Bool.and_eq_true, List.all_eq_true] at hid
      simpa only [enumFrom_snd] using key_clean_iff_msEq true c q (keyAttr ys) xs 0 (enumFrom 0 ys) hwx hwe hid.1
        (by rw [enumFrom_snd]; exact pairwise_of_noIdClash _ ys hid.2)
    | deep =>
      rw [hm] at hid
      simp only [Bool.and_eq_true, List.all_eq_true] at hid
      obtain ⟨⟨hsc, hcl⟩, hdp⟩ := hid
      have := keysync_clean_iff true c q true (keyAttr ys) (fun x y => dataEq c x y) xs 0 (enumFrom 0 ys) hwx hwe
        (fun u hu v _ hd => keyMatch_of_dataEq (hsc u hu) hd)
        (fun u hu v hv hk i => by
          simp only [↓reduceIte]
          exact ih u hu v.2 _ (hwx u hu) (hwe v hv) (idOkDeep_mem hdp u hu v.2 (mem_enumFrom hv) hk))
        (by rw [enumFrom_snd]; exact pairwise_of_noIdClash _ ys hcl)
      rw [enumFrom_snd] at this
      exact this.trans (dataEqMs_eq_msEq c xs ys).symm
  | hclash l r h =>
    intro q _ _ _
    rw [diffBetween_clash true c q h, purge_strict_not_clean]
    exact (Bool.eq_false_iff.mpr fun hd => h (dataEq_kind hd)).symm

/-- **clean ⇔ equal as data, every array mode × every AoH mode** (strict report) -/
theorem diff_clean_iff_dataEq_all_strict (c : Cfg) (l r : Node)
    (hl : wf l = true) (hr : wf r = true) (hid : idOk c l r = true) :
    clean (diff true c l r) = true ↔ dataEq c l r = true := by
  unfold diff
  rw [clean_iff_all_node c l r [] hl hr hid]

/-! ## `idOk` is no condition when no list is synchronised by identity key -/

theorem idOk_of_noKeySync (c : Cfg) (hc : NoKeySync c) : ∀ (l r : Node), idOk c l r = true := by
  intro l
  induction l using nodeInduct with
  | hscalar a v => intro r; cases r <;> (unfold idOk; rfl)
  | hset a ms => intro r; cases r <;> (unfold idOk; rfl)
  | hmap a es ih =>
    intro r
    cases r with
    | map b fs =>
      unfold idOk
      induction es with
      | nil => simp [idOkEntries]
      | cons e es ihe =>
        obtain ⟨k, v⟩ := e
        rw [List.forall_mem_cons] at ih
        unfold idOkEntries
        simp only [ihe ih.2, Bool.and_true]
        cases fs.lookup k with
        | none => rfl
        | some w => exact ih.1 w
    | _ => unfold idOk; rfl
  | hseq a xs ih =>
    intro r
    cases r with
    | seq b ys =>
      unfold idOk
      rcases listMode_nokey hc xs ys with hm | hm | hm | hm
      · rw [hm]
      · rw [hm]
      · rw [hm]
        simp only
        clear hm
        induction xs generalizing ys with
        | nil => simp [idOkPos]
        | cons x xs ihx =>
          cases ys with
          | nil => simp [idOkPos]
          | cons y ys =>
            rw [List.forall_mem_cons] at ih
            unfold idOkPos
            simp only [ih.1 y, ihx ih.2 ys, Bool.and_self]
      · rw [hm]
        simp only
        clear hm
        induction xs with
        | nil => simp [idOkVal]
        | cons x xs ihx =>
          rw [List.forall_mem_cons] at ih
          unfold idOkVal
          simp only [ihx ih.2, ih.1, Bool.or_true, List.all_eq_true, Bool.and_true, implies_true]
    | _ => unfold idOk; rfl

end Ypv.Diff.AllModes

/-! ## the instances: the modes without identity keys, `--aoh key` by position -/

namespace Ypv.Diff.Proofs
open Ypv Ypv.Diff

def CleanIffAt (c : Cfg) (x : Node) : Prop :=
  ∀ r q, wf x = true → wf r = true → clean (diffBetween true c q x r) = dataEq c x r

theorem clean_iff_node (c : Cfg) (hc : Positional c) : ∀ (l : Node), CleanIffAt c l :=
  fun l r q hl hr => AllModes.clean_iff_all_node c l r q hl hr (AllModes.idOk_of_noKeySync c (positional_nokey hc) l r)

/-- **The strict report is clean exactly when the two documents are equal as data** (`dataEq`), in
every array mode and the AoH modes `position`, `dpos` and `value`: position by position, or — under
value synchronisation — as multisets of `==`-equal elements (`msEq_iff_balanced`). -/
theorem diff_clean_iff_dataEq_strict (c : Cfg) (hc : NoKeySync c) (l r : Node)
    (hl : wf l = true) (hr : wf r = true) : clean (diff true c l r) = true ↔ dataEq c l r = true :=
  AllModes.diff_clean_iff_dataEq_all_strict c l r hl hr (AllModes.idOk_of_noKeySync c hc l r)

/-- **Documents that are equal under Python `==` give a clean report** in every array mode and the
AoH modes `position`, `dpos`, `value` (for the code and for the strict variant): `==`-equal documents are equal
as data (`dataEq_of_eqv_node`), so the strict report is clean, and the code's report is clean whenever the
strict one is (`clean_mono_node`). -/
theorem diff_clean_of_eqv (s : Bool) (c : Cfg) (hc : NoKeySync c) (l r : Node)
    (hl : wf l = true) (hr : wf r = true) (h : eqv r l = true) : clean (diff s c l r) = true := by
  have hid := AllModes.idOk_of_noKeySync c hc l r
  have ht := (AllModes.diff_clean_iff_dataEq_all_strict c l r hl hr hid).mpr (AllModes.dataEq_of_eqv_node c l r hl hr h hid)
  cases s with
  | true => exact ht
  | false => exact clean_mono_node c l r [] ht

/-- (`_partial`: AoH modes `key`/`deep` not covered; the class of finding C06-K1 is excluded by the
decidable hypothesis `hv`.)  **The report of the code is clean exactly when the documents are
equal as data.** -/
theorem diff_clean_iff_dataEq_partial (c : Cfg) (hc : NoKeySync c) (l r : Node)
    (hl : wf l = true) (hr : wf r = true) (hv : report c l r = diff true c l r) :
    clean (report c l r) = true ↔ dataEq c l r = true := by
  rw [hv]; exact diff_clean_iff_dataEq_strict c hc l r hl hr

/-- (`_partial`: same restrictions as `diff_clean_iff_dataEq_partial`.)  **`yaml-diff` exits with 0
exactly when the two documents are equal as data**. -/
theorem diff_exit_zero_iff_dataEq_partial (c : Cfg) (hc : NoKeySync c) (l r : Node)
    (hl : wf l = true) (hr : wf r = true) (hv : report c l r = diff true c l r) :
    exitStatus (report c l r) = 0 ↔ dataEq c l r = true :=
  (exit_zero_iff_clean _).trans (diff_clean_iff_dataEq_partial c hc l r hl hr hv)

end Ypv.Diff.Proofs

namespace Ypv.Diff.KeyDoc
open Ypv Ypv.Diff Ypv.Diff.Proofs

theorem diff_clean_iff_dataEq_key_strict (c : Cfg) (hc : KeyPos c) (l r : Node)
    (hl : wf l = true) (hr : wf r = true) (hid : idOk c l r = true) :
    clean (diff true c l r) = true ↔ dataEq c l r = true :=
  AllModes.diff_clean_iff_dataEq_all_strict c l r hl hr hid

end Ypv.Diff.KeyDoc
