import Ypv.Spec.Search
/-!
# Lemmas for C07: the recursive search of the model is the document-order pass of the specification

The model treats a sequence element and a mapping entry by two copies of the same logic, the
specification by one rule.  Here the common part has a name on both sides: what the model yields for
one child (`ycChild`, `sChild`) and the verdict of the rule at its position (`childYRule`,
`childVerdict`); `leaves_child` / `scan_child` say that the pass over the child's position and everything
below it is what the model yields for the child, given the same for the child's own subtree.  The mutual
inductions over the document only put these together.
-/
namespace Ypv.Search
open Ypv.Search.Spec

variable (c : Ctx)

/-- prepend reported addresses to the result of the rest of a pass -/
def andThen (h : List SAddr) (r : List SAddr × List Str) : List SAddr × List Str := (h ++ r.1, r.2)

@[simp] theorem andThen_nil (r : List SAddr × List Str) : andThen [] r = r := rfl

theorem andThen_append (a b : List SAddr) (r) : andThen (a ++ b) r = andThen a (andThen b r) := by
  simp [andThen, List.append_assoc]

theorem leaves_skip (seen : List Str) (l rest : List Pos) :
    leaves c seen l.length (l ++ rest) = leaves c seen 0 rest := by
  induction l with
  | nil => rfl
  | cons p l ih => simpa [leaves] using ih

theorem scan_skip (seen : List Str) (l rest : List Pos) :
    scan c seen l.length (l ++ rest) = scan c seen 0 rest := by
  induction l with
  | nil => rfl
  | cons p l ih => simpa [scan] using ih

theorem scan_nil (seen : List Str) (k : Nat) : scan c seen k [] = [] := by
  cases k <;> rfl

theorem searchAnchor_none (c : Ctx) (seen : List Str) (b : Bool) :
    searchAnchor c none seen b = (.noAnchor, seen) := rfl

@[simp] theorem noAnchor_unwanted : AM.noAnchor.unwantedAlias = false := rfl
@[simp] theorem noAnchor_hit : AM.noAnchor.hit = false := rfl

theorem flat_scalar (a : Option Str) (v : Scalar) (ad : SAddr) : flat (.scalar a v) ad = [] := rfl

theorem not_hidden {c : Ctx} {mg : Bool} (hp : mg = false ∨ c.pooled = true) : (mg && !c.pooled) = false := by
  rcases hp with h | h <;> simp [h]

/-! ## `yield_children` is the pass `leaves` -/

/-- what `yield_children` lists for one child: nothing when it is passed over, the children of a
container, the child itself -/
def ycChild (skip : Bool) (v : SNode) (tmp : Str) (a' : SAddr) (s : List Str) : Out :=
  if skip then ([], s) else if v.isContainer then ycNode c v tmp a' s else ([⟨tmp, a'⟩], s)

/-- the expansion rule at the position of that child -/
def childYRule (skip : Bool) (v : SNode) (s : List Str) : YVerdict × List Str :=
  if skip then (.pass, s) else (if v.isContainer then .enter else .leaf, s)

section
variable (e v : SNode) (k : AKey) (r : List SNode) (es : List (AKey × SNode)) (mg : Bool) (i sz : Nat) (bp1 : Str)
  (ad a' : SAddr) (seen : List Str)

theorem ycItems_cons :
    ycItems c (e :: r) i bp1 ad seen =
      let A := searchAnchor c e.anchor seen c.o.inclValueAliases
      let o := ycChild c (!c.o.inclValueAliases && A.1.unwantedAlias) e (itemPath c bp1 i e.anchor)
        (ad ++ [.idx i]) A.2
      (o.1 ++ (ycItems c r (i + 1) bp1 ad o.2).1, (ycItems c r (i + 1) bp1 ad o.2).2) := rfl

theorem ycEntries_cons :
    ycEntries c ((k, v) :: es) bp1 ad seen =
      let K := searchAnchor c k.anchor seen c.o.inclKeyAliases
      let A := searchAnchor c v.anchor K.2 c.o.inclValueAliases
      let o := ycChild c ((!c.o.inclKeyAliases && K.1.unwantedAlias) || (!c.o.inclValueAliases && A.1.unwantedAlias))
        v (keyPath c bp1 k.key) (ad ++ [.key k.key]) A.2
      (o.1 ++ (ycEntries c es bp1 ad o.2).1, (ycEntries c es bp1 ad o.2).2) := rfl

theorem yrule_item :
    yrule c { addr := a', kind := kindOf e, anchor := e.anchor, size := sz } seen =
      let A := searchAnchor c e.anchor seen c.o.inclValueAliases
      childYRule (!c.o.inclValueAliases && A.1.unwantedAlias) e A.2 := by
  have h : ∀ (b : Bool) (x y : YVerdict × List Str),
      (if ((!c.o.inclKeyAliases && AM.noAnchor.unwantedAlias) || b) = true then x else y) = if b = true then x else y :=
    fun b x y => by rw [noAnchor_unwanted, Bool.and_false, Bool.false_or]
  cases e <;> exact h _ _ _

theorem yrule_entry :
    yrule c { addr := a', kind := kindOf v, key := some k, merged := mg, anchor := v.anchor, size := sz } seen =
      let K := searchAnchor c k.anchor seen c.o.inclKeyAliases
      let A := searchAnchor c v.anchor K.2 c.o.inclValueAliases
      if mg && !c.pooled then (.pass, seen) else
      childYRule ((!c.o.inclKeyAliases && K.1.unwantedAlias) || (!c.o.inclValueAliases && A.1.unwantedAlias)) v A.2 := by
  cases v <;> rfl

theorem yrule_member :
    yrule c { addr := a', kind := .member, key := some k } seen =
      (if (!c.o.inclKeyAliases && (searchAnchor c k.anchor seen c.o.inclKeyAliases).1.unwantedAlias) = true
        then .pass else .leaf, (searchAnchor c k.anchor seen c.o.inclKeyAliases).2) := rfl

end

theorem leaves_child {p : Pos} {skip : Bool} {v : SNode} {s seen : List Str} (tmp : Str)
    (rest : List Pos) (hr : yrule c p seen = childYRule skip v s) (hsz : p.size = (flat v p.addr).length)
    (ih : v.isContainer = true → leaves c s 0 (flat v p.addr ++ rest) =
      andThen ((ycNode c v tmp p.addr s).1.map Hit.addr) (leaves c (ycNode c v tmp p.addr s).2 0 rest)) :
    leaves c seen 0 (p :: (flat v p.addr ++ rest)) =
      andThen ((ycChild c skip v tmp p.addr s).1.map Hit.addr)
        (leaves c (ycChild c skip v tmp p.addr s).2 0 rest) := by
  rw [leaves, hr]
  unfold childYRule ycChild
  cases skip with
  | true => simp only [if_true]; rw [hsz, leaves_skip]; rfl
  | false =>
    by_cases hv : v.isContainer = true
    · simp only [Bool.false_eq_true, if_false, if_pos hv]
      exact ih hv
    · cases v with
      | scalar _ _ => rfl
      | _ => exact absurd rfl hv

theorem leaves_refs (seen : List Str) (rest : List Pos) (ad : SAddr) (refs : List Str) (j : Nat) :
    leaves c seen 0 (flatRefs refs j ad ++ rest) = leaves c seen 0 rest := by
  induction refs generalizing j with
  | nil => rfl
  | cons _ r ih =>
    simp only [flatRefs, List.cons_append, leaves, yrule]
    exact ih (j + 1)

theorem leaves_unpooled (hp : c.pooled = false) (ad : SAddr) (rest : List Pos) (es : List (AKey × SNode))
    (seen : List Str) : leaves c seen 0 (flatEntries true es ad ++ rest) = leaves c seen 0 rest := by
  induction es with
  | nil => rfl
  | cons e r ih =>
    simp only [flatEntries, List.cons_append, List.append_assoc, leaves, yrule_entry, hp, Bool.not_false,
      Bool.and_self, if_true]
    rw [leaves_skip]
    exact ih

theorem yc_members (bp1 : Str) (ad : SAddr) (rest : List Pos) (ms : List AKey) (seen : List Str) :
    leaves c seen 0 (flatMembers ms ad ++ rest) =
      andThen ((ycMembers c ms bp1 ad seen).1.map Hit.addr) (leaves c (ycMembers c ms bp1 ad seen).2 0 rest) := by
  induction ms generalizing seen with
  | nil => rfl
  | cons k r ih =>
    have ih := ih (searchAnchor c k.anchor seen c.o.inclKeyAliases).2
    simp only [flatMembers, List.cons_append, leaves, yrule_member, ycMembers]
    cases (!c.o.inclKeyAliases && (searchAnchor c k.anchor seen c.o.inclKeyAliases).1.unwantedAlias)
    · simp only [Bool.false_eq_true, if_false, ih]; rfl
    · simp only [if_true, ih]; rfl

theorem ycNode_map (a : Option Str) (own merged : List (AKey × SNode)) (refs : List Str) (bp : Str)
    (ad : SAddr) (seen : List Str) :
    ycNode c (.map a own merged refs) bp ad seen =
      let o1 := ycEntries c own (mapPrefix c bp) ad seen
      if c.pooled then
        (o1.1 ++ (ycEntries c merged (mapPrefix c bp) ad o1.2).1, (ycEntries c merged (mapPrefix c bp) ad o1.2).2)
      else o1 := rfl

mutual
theorem yc_node (c : Ctx) : ∀ (n : SNode) (bp : Str) (ad : SAddr) (seen : List Str) (rest : List Pos),
    n.isContainer = true →
    leaves c seen 0 (flat n ad ++ rest) =
      andThen ((ycNode c n bp ad seen).1.map Hit.addr) (leaves c (ycNode c n bp ad seen).2 0 rest)
  | .scalar _ _ => fun _ _ _ _ h => nomatch h
  | .seq _ items => fun bp ad seen rest _ => yc_items c items 0 (seqPrefix c bp) ad seen rest
  | .set _ ms => fun bp ad seen rest _ => yc_members c (mapPrefix c bp) ad rest ms seen
  | .map _ own merged refs => fun bp ad seen rest _ => by
    rw [flat, ycNode_map, List.append_assoc, List.append_assoc,
      yc_entries c false own (mapPrefix c bp) ad seen _ (Or.inl rfl)]
    cases hp : c.pooled with
    | true =>
      rw [yc_entries c true merged (mapPrefix c bp) ad _ _ (Or.inr hp), leaves_refs, ← andThen_append,
        ← List.map_append]
      rfl
    | false =>
      rw [leaves_unpooled c hp, leaves_refs]
      rfl
theorem yc_items (c : Ctx) : ∀ (items : List SNode) (i : Nat) (bp1 : Str) (ad : SAddr) (seen : List Str)
    (rest : List Pos),
    leaves c seen 0 (flatItems items i ad ++ rest) =
      andThen ((ycItems c items i bp1 ad seen).1.map Hit.addr) (leaves c (ycItems c items i bp1 ad seen).2 0 rest)
  | [] => fun _ _ _ _ _ => rfl
  | e :: r => fun i bp1 ad seen rest => by
    rw [flatItems, ycItems_cons, List.cons_append, List.append_assoc,
      leaves_child c (itemPath c bp1 i e.anchor) _ (yrule_item ..) rfl (yc_node c e _ _ _ _),
      yc_items c r (i + 1) bp1 ad _ rest, ← andThen_append, ← List.map_append]
theorem yc_entries (c : Ctx) : ∀ (mg : Bool) (es : List (AKey × SNode)) (bp1 : Str) (ad : SAddr) (seen : List Str)
    (rest : List Pos), (mg = false ∨ c.pooled = true) →
    leaves c seen 0 (flatEntries mg es ad ++ rest) =
      andThen ((ycEntries c es bp1 ad seen).1.map Hit.addr) (leaves c (ycEntries c es bp1 ad seen).2 0 rest)
  | _, [] => fun _ _ _ _ _ => rfl
  | mg, (k, v) :: r => fun bp1 ad seen rest hp => by
    rw [flatEntries, ycEntries_cons, List.cons_append, List.append_assoc,
      leaves_child c (keyPath c bp1 k.key) _ ((yrule_entry ..).trans (by rw [not_hidden hp]; rfl)) rfl
        (yc_node c v _ _ _ _),
      yc_entries c mg r bp1 ad _ rest hp, ← andThen_append, ← List.map_append]
end

theorem yc_flat {n : SNode} (hn : n.isContainer = true) (bp : Str) (ad : SAddr) (seen : List Str) :
    leaves c seen 0 (flat n ad) = ((ycNode c n bp ad seen).1.map Hit.addr, (ycNode c n bp ad seen).2) := by
  have := yc_node c n bp ad seen [] hn
  rwa [List.append_nil, leaves, andThen, List.append_nil] at this

/-! ## `search_for_paths` is the pass `scan` -/

/-- what the model does with a value that is neither matched by name nor an unwanted repeat -/
def descend (c : Ctx) (n : SNode) (tmp : Str) (a' : SAddr) (seen : List Str) : Out :=
  match n with
  | .scalar _ v => (valueHit c v tmp a', seen)
  | n => sNode c n tmp a' seen

/-- the verdict for a value that is neither matched by name nor an unwanted repeat -/
def valueVerdict : SNode → Verdict
  | .scalar _ v => .value (c.o.searchValues && c.μ v)
  | _ => .enter

theorem descend_scalar (c : Ctx) (a : Option Str) (v : Scalar) (tmp : Str) (a' : SAddr) (seen : List Str) :
    descend c (.scalar a v) tmp a' seen = (valueHit c v tmp a', seen) := rfl

theorem valueHit_addr (v : Scalar) (tmp : Str) (a' : SAddr) :
    (valueHit c v tmp a').map Hit.addr = if (c.o.searchValues && c.μ v) = true then [a'] else [] := by
  unfold valueHit; cases (c.o.searchValues && c.μ v) <;> rfl

/-- the key test of the mapping branch -/
def keyHit (k : AKey) (kam : AM) : Bool :=
  c.o.searchKeys && (kam.hit || ((c.o.inclKeyAliases || !kam.unwantedAlias) && c.μ (keyScalar k.key)))

/-- the key anchor lookup of the mapping branch (only with key-name search) -/
def keyAnchor (k : AKey) (seen1 : List Str) : AM × List Str :=
  if c.o.searchKeys then searchAnchor c k.anchor seen1 c.o.inclKeyAliases else (AM.noAnchor, seen1)

/-- what the search yields for one child: `kh` the key test, `A` the lookup of the value's anchor -/
def sChild (kh : Bool) (A : AM) (v : SNode) (tmp : Str) (a' : SAddr) (s : List Str) : Out :=
  if kh then emit c v tmp a' s
  else if valueRepeat c A then ([], s)
  else if A.hit then emit c v tmp a' s
  else descend c v tmp a' s

/-- the rule at the position of that child -/
def childVerdict (kh : Bool) (A : AM) (v : SNode) : Verdict :=
  if kh then .matched else if valueRepeat c A then .pass else if A.hit then .matched else valueVerdict c v

section
variable (e v : SNode) (k : AKey) (r : List SNode) (es : List (AKey × SNode)) (mg : Bool) (i sz : Nat) (bp1 : Str)
  (ad a' : SAddr) (seen : List Str)

theorem sItems_cons :
    sItems c (e :: r) i bp1 ad seen =
      let A := searchAnchor c e.anchor seen c.o.inclValueAliases
      let o := sChild c false A.1 e (itemPath c bp1 i e.anchor) (ad ++ [.idx i]) A.2
      (o.1 ++ (sItems c r (i + 1) bp1 ad o.2).1, (sItems c r (i + 1) bp1 ad o.2).2) := by
  cases e <;> rfl

theorem sEntries_cons :
    sEntries c ((k, v) :: es) bp1 ad seen =
      let A := searchAnchor c v.anchor seen c.o.inclValueAliases
      let K := keyAnchor c k A.2
      let o := sChild c (keyHit c k K.1) A.1 v (keyPath c bp1 k.key) (ad ++ [.key k.key]) K.2
      (o.1 ++ (sEntries c es bp1 ad o.2).1, (sEntries c es bp1 ad o.2).2) := by
  cases v <;> rfl

theorem sNode_map (a : Option Str) (own merged : List (AKey × SNode)) (refs : List Str) (bp : Str) :
    sNode c (.map a own merged refs) bp ad seen =
      let o1 := sEntries c own (mapPrefix c bp) ad seen
      let o2 : Out := if c.pooled then sEntries c merged (mapPrefix c bp) ad o1.2 else ([], o1.2)
      (o1.1 ++ o2.1 ++ (if c.o.inclValueAliases && c.o.searchAnchors then ymk c refs 0 (mapPrefix c bp) ad else []),
       o2.2) := rfl

theorem rule_item :
    rule c { addr := a', kind := kindOf e, anchor := e.anchor, size := sz } seen =
      let A := searchAnchor c e.anchor seen c.o.inclValueAliases
      (childVerdict c false A.1 e, A.2) := by
  have h : ∀ (V : Verdict) (s : List Str),
      (V, (if c.o.searchKeys = true then (AM.noAnchor, s) else (AM.noAnchor, s)).2) = (V, s) :=
    fun V s => by rw [ite_self]
  cases e <;> exact h _ _

theorem rule_entry :
    rule c { addr := a', kind := kindOf v, key := some k, merged := mg, anchor := v.anchor, size := sz } seen =
      let A := searchAnchor c v.anchor seen c.o.inclValueAliases
      let K := keyAnchor c k A.2
      if mg && !c.pooled then (.pass, seen) else (childVerdict c (keyHit c k K.1) A.1 v, K.2) := by
  cases v <;> rfl

end

theorem scan_unpooled (hp : c.pooled = false) (ad : SAddr) (rest : List Pos) (es : List (AKey × SNode))
    (seen : List Str) : scan c seen 0 (flatEntries true es ad ++ rest) = scan c seen 0 rest := by
  induction es with
  | nil => rfl
  | cons e r ih =>
    simp only [flatEntries, List.cons_append, List.append_assoc, scan, rule_entry, hp, Bool.not_false,
      Bool.and_self, if_true]
    rw [scan_skip]
    exact ih

theorem scan_refs (seen : List Str) (rest : List Pos) (bp1 : Str) (ad : SAddr) (refs : List Str) (j : Nat) :
    scan c seen 0 (flatRefs refs j ad ++ rest) =
      (if c.o.inclValueAliases && c.o.searchAnchors then ymk c refs j bp1 ad else []).map Hit.addr
        ++ scan c seen 0 rest := by
  induction refs generalizing j with
  | nil => cases (c.o.inclValueAliases && c.o.searchAnchors) <;> rfl
  | cons n r ih =>
    have ih := ih (j + 1)
    by_cases h : (c.o.inclValueAliases && c.o.searchAnchors) = true
    · by_cases hm : c.μ (.str n) = true <;> simp [flatRefs, scan, rule, ymk, h, hm, ih]
    · simp [flatRefs, scan, rule, h, ih]

theorem s_members (bp1 : Str) (ad : SAddr) (rest : List Pos) (ms : List AKey) (seen : List Str) :
    scan c seen 0 (flatMembers ms ad ++ rest) =
      (sMembers c ms bp1 ad seen).1.map Hit.addr ++ scan c (sMembers c ms bp1 ad seen).2 0 rest := by
  induction ms generalizing seen with
  | nil => rfl
  | cons k r ih =>
    have ih := ih (searchAnchor c k.anchor seen c.o.inclKeyAliases).2
    simp only [flatMembers, List.cons_append, scan, rule, sMembers, Option.bind, keyCounts]
    by_cases h1 : (searchAnchor c k.anchor seen c.o.inclKeyAliases).1.hit = true
    · simp [h1, ih]
    · by_cases h2 : ((c.o.inclKeyAliases || !(searchAnchor c k.anchor seen c.o.inclKeyAliases).1.unwantedAlias)
          && c.μ (keyScalar k.key)) = true
      · simp [h1, h2, ih]
      · simp [h1, h2, ih]

theorem scan_matched {p : Pos} {v : SNode} {s seen : List Str} (tmp : Str) (rest : List Pos)
    (hr : rule c p seen = (.matched, s)) (hk : p.kind = kindOf v) (hsz : p.size = (flat v p.addr).length) :
    scan c seen 0 (p :: (flat v p.addr ++ rest)) =
      (emit c v tmp p.addr s).1.map Hit.addr ++ scan c (emit c v tmp p.addr s).2 0 rest := by
  rw [scan, hr, hk, hsz]
  dsimp only
  rw [scan_skip, scan_skip, List.take_left' rfl]
  unfold emit
  cases c.o.expand with
  | false => rfl
  | true =>
    cases v with
    | scalar a x => rfl
    | _ => rw [yc_flat c rfl tmp]; rfl

theorem scan_child {p : Pos} {kh : Bool} {A : AM} {v : SNode} {s seen : List Str}
    (tmp : Str) (rest : List Pos) (hr : rule c p seen = (childVerdict c kh A v, s))
    (hk : p.kind = kindOf v) (hsz : p.size = (flat v p.addr).length)
    (ih : v.isContainer = true → scan c s 0 (flat v p.addr ++ rest) =
      (sNode c v tmp p.addr s).1.map Hit.addr ++ scan c (sNode c v tmp p.addr s).2 0 rest) :
    scan c seen 0 (p :: (flat v p.addr ++ rest)) =
      (sChild c kh A v tmp p.addr s).1.map Hit.addr ++ scan c (sChild c kh A v tmp p.addr s).2 0 rest := by
  unfold childVerdict at hr
  unfold sChild
  cases kh with
  | true => exact scan_matched c tmp rest hr hk hsz
  | false =>
    simp only [Bool.false_eq_true, if_false] at hr ⊢
    by_cases h1 : valueRepeat c A = true
    · rw [if_pos h1] at hr ⊢
      rw [scan, hr, hsz]
      exact scan_skip c s _ rest
    · rw [if_neg h1] at hr ⊢
      by_cases h2 : A.hit = true
      · rw [if_pos h2] at hr ⊢
        exact scan_matched c tmp rest hr hk hsz
      · rw [if_neg h2] at hr ⊢
        rw [scan, hr]
        cases v with
        | scalar a x =>
          simp only [valueVerdict, descend_scalar, flat_scalar, List.nil_append, valueHit_addr]
        | _ => exact ih rfl

mutual
theorem s_node (c : Ctx) : ∀ (n : SNode) (bp : Str) (ad : SAddr) (seen : List Str) (rest : List Pos),
    n.isContainer = true →
    scan c seen 0 (flat n ad ++ rest) =
      (sNode c n bp ad seen).1.map Hit.addr ++ scan c (sNode c n bp ad seen).2 0 rest
  | .scalar _ _ => fun _ _ _ _ h => nomatch h
  | .seq _ items => fun bp ad seen rest _ => s_items c items 0 (seqPrefix c bp) ad seen rest
  | .set _ ms => fun bp ad seen rest _ => s_members c (mapPrefix c bp) ad rest ms seen
  | .map _ own merged refs => fun bp ad seen rest _ => by
    rw [flat, sNode_map, List.append_assoc, List.append_assoc,
      s_entries c false own (mapPrefix c bp) ad seen _ (Or.inl rfl)]
    cases hp : c.pooled with
    | true =>
      rw [s_entries c true merged (mapPrefix c bp) ad _ _ (Or.inr hp), scan_refs c _ rest (mapPrefix c bp)]
      simp only [if_true, List.map_append, List.append_assoc]
    | false =>
      rw [scan_unpooled c hp, scan_refs c _ rest (mapPrefix c bp)]
      simp only [Bool.false_eq_true, if_false, List.map_append, List.append_assoc, List.nil_append]
theorem s_items (c : Ctx) : ∀ (items : List SNode) (i : Nat) (bp1 : Str) (ad : SAddr) (seen : List Str)
    (rest : List Pos),
    scan c seen 0 (flatItems items i ad ++ rest) =
      (sItems c items i bp1 ad seen).1.map Hit.addr ++ scan c (sItems c items i bp1 ad seen).2 0 rest
  | [] => fun _ _ _ _ _ => rfl
  | e :: r => fun i bp1 ad seen rest => by
    rw [flatItems, sItems_cons, List.cons_append, List.append_assoc,
      scan_child c (itemPath c bp1 i e.anchor) _ (rule_item ..) rfl rfl (s_node c e _ _ _ _),
      s_items c r (i + 1) bp1 ad _ rest, ← List.append_assoc, ← List.map_append]
theorem s_entries (c : Ctx) : ∀ (mg : Bool) (es : List (AKey × SNode)) (bp1 : Str) (ad : SAddr) (seen : List Str)
    (rest : List Pos), (mg = false ∨ c.pooled = true) →
    scan c seen 0 (flatEntries mg es ad ++ rest) =
      (sEntries c es bp1 ad seen).1.map Hit.addr ++ scan c (sEntries c es bp1 ad seen).2 0 rest
  | _, [] => fun _ _ _ _ _ => rfl
  | mg, (k, v) :: r => fun bp1 ad seen rest hp => by
    rw [flatEntries, sEntries_cons, List.cons_append, List.append_assoc,
      scan_child c (keyPath c bp1 k.key) _ ((rule_entry ..).trans (by rw [not_hidden hp]; rfl)) rfl rfl
        (s_node c v _ _ _ _),
      s_entries c mg r bp1 ad _ rest hp, ← List.append_assoc, ← List.map_append]
end

theorem search_container {d : SNode} (hd : d.isContainer = true) :
    (search c d).map Hit.addr = scan c [] 0 (flat d []) := by
  have := s_node c d [] [] [] [] hd
  rw [List.append_nil, scan_nil, List.append_nil] at this
  exact this.symm

end Ypv.Search
