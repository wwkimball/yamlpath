import Ypv.Lemmas.Diff
import Ypv.Spec.DiffRules
/-!
# C06 under per-path `[rules]` / `[keys]`: truthfulness wherever the resolved modes are positional

`diff_truthful` for the global modes (end of the file) is the case of no configuration file.
-/
namespace Ypv.Diff.Rules
open Ypv Ypv.Diff Ypv.Diff.Proofs

/-! ## `_get_config_for` -/

/-- `_get_config_for` returns the text of the first stored entry whose node, parent and parentref are `==`
to the asked ones -/
theorem getConfigFor_eq_find (es : List RuleEntry) (q : Coord) :
    getConfigFor es q = match es.find? (fun e => coordMatch e.nc q) with
      | some e => e.text
      | none => [] := by
  induction es with
  | nil => rfl
  | cons e es ih =>
    simp only [getConfigFor, List.find?_cons]
    cases coordMatch e.nc q with
    | true => rfl
    | false => simpa using ih

theorem getConfigFor_nil (q : Coord) : getConfigFor [] q = [] := rfl

/-! ## truthfulness -/

theorem Rep.app_ok {a b : Rep} {rep : List Entry} (h : Rep.app a b = .ok rep) :
    ∃ x y, a = .ok x ∧ b = .ok y ∧ rep = x ++ y := by
  unfold Rep.app at h
  cases a with
  | error c => cases h
  | ok x =>
    cases b with
    | error c => cases h
    | ok y => simp only [Except.ok.injEq] at h; exact ⟨x, y, rfl, rfl, h.symm⟩

theorem Rep.app_ok_ok (x y : List Entry) : Rep.app (.ok x) (.ok y) = .ok (x ++ y) := rfl

def Rep.All (P : Entry → Prop) (r : Rep) : Prop := ∃ rep, r = .ok rep ∧ ∀ e ∈ rep, P e

theorem Rep.All.ok {P : Entry → Prop} {rep : List Entry} (h : ∀ e ∈ rep, P e) : Rep.All P (.ok rep) := ⟨rep, rfl, h⟩

theorem Rep.All.app {P : Entry → Prop} {a b : Rep} (ha : Rep.All P a) (hb : Rep.All P b) : Rep.All P (Rep.app a b) := by
  obtain ⟨x, rfl, hx⟩ := ha
  obtain ⟨y, rfl, hy⟩ := hb
  exact ⟨x ++ y, rfl, fun e he => (List.mem_append.mp he).elim (hx e) (hy e)⟩

theorem Rep.All.mono {P Q : Entry → Prop} {r : Rep} (h : ∀ e, P e → Q e) (hr : Rep.All P r) : Rep.All Q r := by
  obtain ⟨x, rfl, hx⟩ := hr
  exact ⟨x, rfl, fun e he => h e (hx e he)⟩

def TruthfulAt (s : Bool) (pc : PCfg) (x : Node) : Prop :=
  ∀ r q par pref, wf x = true → wf r = true → posReach pc par pref x r = true →
    Rep.All (EntryOk q x r) (diffBetween s pc q par pref x r)

theorem diffPos_nil_right (s : Bool) (pc : PCfg) (p : Addr) (par : Node) : ∀ (xs : List Node) (i : Nat),
    diffPos s pc p par i xs [] = .ok (delSeq p i xs) := by
  intro xs
  induction xs with
  | nil => intro i; simp [diffPos, delSeq, addSeq]
  | cons x xs ih => intro i; simp only [diffPos, ih, delSeq]; rfl

theorem pos_ok (s : Bool) (pc : PCfg) (p : Addr) (par : Node) (a b : Option Str) : ∀ (xs ys pre pre' : List Node),
    pre.length = pre'.length → (∀ x ∈ xs, TruthfulAt s pc x) → (∀ x ∈ xs, wf x = true) → (∀ y ∈ ys, wf y = true) →
    posReachPos pc par pre.length xs ys = true →
    Rep.All (EntryOk p (.seq a (pre ++ xs)) (.seq b (pre' ++ ys))) (diffPos s pc p par pre.length xs ys) := by
  intro xs
  induction xs with
  | nil =>
    intro ys pre pre' hlen _ _ _ _
    unfold diffPos
    exact .ok (hlen ▸ addSeq_ok p b _ ys pre')
  | cons x xs ih =>
    intro ys pre pre' hlen hih hwx hwy hpr
    cases ys with
    | nil =>
      rw [diffPos_nil_right]
      exact .ok (fun e h => (delSeq_ok p a _ (x :: xs) pre e h).2)
    | cons y ys =>
      rw [List.forall_mem_cons] at hih hwx hwy
      unfold posReachPos at hpr
      simp only [Bool.and_eq_true] at hpr
      unfold diffPos
      refine .app ((hih.1 y _ _ _ hwx.1 hwy.1 (by simpa using hpr.1)).mono (fun e =>
        EntryOk.lift (ref := .idx pre.length) (getElem?_pre pre x xs) (hlen ▸ getElem?_pre pre' y ys))) ?_
      have := ih ys (pre ++ [x]) (pre' ++ [y]) (by simp [hlen]) hih.2 hwx.2 hwy.2 (by simpa using hpr.2)
      simpa using this

theorem dict_ok (s : Bool) (pc : PCfg) (p : Addr) (par : Node) (a b : Option Str) (es0 fs : List (Key × Node))
    (hwf : ∀ kv ∈ fs, wf kv.2 = true) : ∀ (es : List (Key × Node)),
    (∀ kv ∈ es, es0.lookup kv.1 = some kv.2) → (∀ kv ∈ es, TruthfulAt s pc kv.2) → (∀ kv ∈ es, wf kv.2 = true) →
    posReachEntries pc par es fs = true →
    Rep.All (EntryOk p (.map a es0) (.map b fs)) (diffDict s pc p par es fs) := by
  intro es
  induction es with
  | nil => intro _ _ _ _; simp only [diffDict]; exact .ok (fun _ h => by cases h)
  | cons kv es ih =>
    obtain ⟨k, v⟩ := kv
    intro hlk hih hw hpr
    rw [List.forall_mem_cons] at hlk hih hw
    have hl : (Node.map a es0).child? (.key k) = some v := hlk.1
    unfold posReachEntries at hpr
    simp only [Bool.and_eq_true] at hpr
    unfold diffDict
    refine .app ?_ (ih hlk.2 hih.2 hw.2 hpr.2)
    cases hf : fs.lookup k with
    | some w =>
      have hp1 := hpr.1
      rw [hf] at hp1
      exact (hih.1 w _ _ _ hw.1 (hwf (k, w) (mem_of_lookup hf)) hp1).mono (fun e =>
        EntryOk.lift hl (show (Node.map b fs).child? (.key k) = some w from hf))
    | none => exact .ok (fun e h => List.mem_singleton.mp h ▸ EntryOk.del_child hl)

theorem diffBetween_clash (s : Bool) (pc : PCfg) (q : Addr) (par : Option Node) (pref : Option Key) {l r : Node}
    (h : kind l ≠ kind r) : diffBetween s pc q par pref l r = .ok (purge s q l ++ addAll s q r) := by
  cases l with
  | scalar a v => cases r with | scalar b w => exact absurd rfl h | _ => rfl
  | seq a xs => cases r with | seq b ys => exact absurd rfl h | _ => rfl
  | map a es => cases r with | map b fs => exact absurd rfl h | _ => rfl
  | set a ms => cases r with | set b ns => exact absurd rfl h | _ => rfl

theorem truthful_node (s : Bool) (pc : PCfg) : ∀ (l : Node), TruthfulAt s pc l := by
  intro l r
  induction l, r using pairInduct with
  | hscalar a v b w =>
    exact fun _ _ _ _ _ _ => .ok (fun e he => List.mem_singleton.mp he ▸ EntryOk.scalar_self)
  | hset a ms b ns =>
    intro q par pref _ _ _
    refine .ok (fun e he => ?_)
    simp only [List.mem_append, List.mem_map, List.mem_filter] at he
    cases he with
    | inl h =>
      obtain ⟨k, hk, rfl⟩ := h
      cases hn : ns.contains k with
      | true =>
        rw [if_pos rfl]
        have hkn : k ∈ ns := by simpa using hn
        exact EntryOk.same [.member k] (keyNode k) (keyNode k) (by rw [get?_cons (child_member hk)]; rfl)
          (by rw [get?_cons (child_member hkn)]; rfl) (eqv_keyNode_self k)
      | false =>
        rw [if_neg (by decide)]
        exact EntryOk.del_child (child_member hk)
    | inr h =>
      obtain ⟨k, ⟨hk, _⟩, rfl⟩ := h
      exact EntryOk.add_child (child_member hk)
  | hmap a es b fs ih =>
    intro q par pref hl hr hpr
    obtain ⟨hd, hv⟩ := wf_map hl
    obtain ⟨hd', hv'⟩ := wf_map hr
    unfold posReach at hpr
    unfold diffBetween
    refine .app (dict_ok s pc q (.map b fs) a b es fs hv' es (fun kv hkv => lookup_of_mem hd kv hkv) ih hv hpr) (.ok ?_)
    intro e h
    simp only [List.mem_map, List.mem_filter] at h
    obtain ⟨kv, ⟨hkv, _⟩, rfl⟩ := h
    exact EntryOk.add_child (ref := .key kv.1) (lookup_of_mem hd' kv hkv)
  | hseq a xs b ys ih =>
    intro q par pref hl hr hpr
    unfold posReach at hpr
    unfold diffBetween
    cases hm : listModeAt pc ⟨.seq b ys, par, pref⟩ xs ys with
    | error c => rw [hm] at hpr; cases hpr
    | ok m =>
      rw [hm] at hpr
      cases m with
      | nothing => exact .ok (fun _ h => by cases h)
      | posShallow => exact .ok (shallow_ok q a b xs ys [] [] rfl)
      | posDeep =>
        exact pos_ok s pc q (.seq b ys) a b xs ys [] [] rfl ih (wf_seq_mem hl) (wf_seq_mem hr) hpr
      | _ => cases hpr
  | hclash l r h =>
    intro q par pref hl hr _
    rw [diffBetween_clash s pc q par pref h]
    exact .ok (clash_ok s q l r hl hr)

/-! ## without a configuration file the per-path model is the global one -/

theorem listModeAt_plain_single (c : Cfg) (q : Coord) (e : Node) :
    listModeAt (PCfg.plain c) q [] [e] = .ok (listMode c [] [e]) := by
  obtain ⟨arr, aoh⟩ := c
  simp only [listModeAt, listMode, aohModeAt, arrModeAt, PCfg.plain, getConfigFor, if_true]
  cases isMap e with
  | false => cases arr <;> rfl
  | true => cases aoh <;> cases arr <;> rfl

theorem listModeAt_plain (c : Cfg) (q : Coord) (xs ys : List Node) :
    listModeAt (PCfg.plain c) q xs ys = .ok (listMode c xs ys) := by
  cases ys with
  | cons y ys => exact listModeAt_plain_single c q y
  | nil =>
    cases xs with
    | nil => rfl
    | cons x xs => exact listModeAt_plain_single c q x

/-- the identity key inferred from a record: its first key -/
def inferredKey : Node → Key × Bool
  | .map _ ((k, _) :: _) => (k, false)
  | _ => (.str [], true)

theorem aohDiffKey_plain (c : Cfg) (q : Coord) : aohDiffKey (PCfg.plain c) q = inferredKey q.node := by
  obtain ⟨n, pa, pr⟩ := q
  simp only [aohDiffKey, PCfg.plain, getConfigFor, parentKey, if_true]
  cases n with
  | map a es =>
    cases es with
    | nil => rfl
    | cons e es => obtain ⟨k, v⟩ := e; rfl
  | _ => rfl

theorem keyAttrAt_plain (c : Cfg) (par : Node) (ys : List Node) : keyAttrAt (PCfg.plain c) par ys = keyAttr ys := by
  cases ys with
  | nil => rfl
  | cons y ys =>
    cases y with
    | map a es =>
      simp only [keyAttrAt, aohDiffKey_plain]
      cases es with
      | nil => rfl
      | cons e es => obtain ⟨k, v⟩ := e; rfl
    | _ => rfl

theorem useKey_plain (c : Cfg) (par : Node) (ka : Key) (y : Nat × Node) : useKey (PCfg.plain c) par ka y = ka := by
  obtain ⟨i, n⟩ := y
  simp only [useKey, aohDiffKey_plain]
  cases n with
  | map a es =>
    cases es with
    | nil => simp [inferredKey]
    | cons e es => obtain ⟨k, v⟩ := e; simp [inferredKey]
  | _ => simp [inferredKey]

theorem matchAt_plain (c : Cfg) (par : Node) (ka : Key) (x : Node) (y : Nat × Node) {v : Node}
    (hx : keyVal ka x = some v) : matchAt (PCfg.plain c) par ka x y = .ok (keyMatch ka x y.2) := by
  simp only [matchAt, useKey_plain, keyMatch, hx]
  cases keyVal ka y.2 <;> rfl

theorem removeFirstAt_ok (f : Node → Bool) (g : Nat × Node → Except Crash Bool) :
    ∀ (rem : List (Nat × Node)), (∀ y ∈ rem, g y = .ok (f y.2)) → removeFirstAt g rem = .ok (removeFirst f rem) := by
  intro rem
  induction rem with
  | nil => intro _; rfl
  | cons y ys ih =>
    intro h
    rw [List.forall_mem_cons] at h
    simp only [removeFirstAt, removeFirst, h.1]
    cases hf : f y.2 with
    | true => simp
    | false =>
      simp only [ih h.2]
      cases removeFirst f ys with
      | none => simp
      | some r => obtain ⟨z, zs⟩ := r; simp

theorem removeFirst_keyless (ka : Key) (x : Node) (hx : keyVal ka x = none) :
    ∀ (rem : List (Nat × Node)), removeFirst (keyMatch ka x) rem = none := by
  intro rem
  induction rem with
  | nil => rfl
  | cons y ys ih => simp [removeFirst, keyMatch, hx, ih]

def PlainAt (s : Bool) (c : Cfg) (x : Node) : Prop :=
  ∀ r q par pref, diffBetween s (PCfg.plain c) q par pref x r = .ok (Diff.diffBetween s c q x r)

theorem plain_dict (s : Bool) (c : Cfg) (p : Addr) (par : Node) (fs : List (Key × Node)) : ∀ (es : List (Key × Node)),
    (∀ kv ∈ es, PlainAt s c kv.2) → diffDict s (PCfg.plain c) p par es fs = .ok (Diff.diffDict s c p es fs) := by
  intro es
  induction es with
  | nil => intro _; rfl
  | cons kv es ih =>
    obtain ⟨k, v⟩ := kv
    intro hih
    rw [List.forall_mem_cons] at hih
    unfold diffDict Diff.diffDict
    simp only [ih hih.2]
    cases fs.lookup k with
    | none => rfl
    | some w => simp only [hih.1 w]; rfl

theorem plain_pos (s : Bool) (c : Cfg) (p : Addr) (par : Node) : ∀ (xs ys : List Node) (i : Nat),
    (∀ x ∈ xs, PlainAt s c x) → diffPos s (PCfg.plain c) p par i xs ys = .ok (Diff.diffPos s c p i xs ys) := by
  intro xs
  induction xs with
  | nil => intro ys i _; rfl
  | cons x xs ih =>
    intro ys i hih
    rw [List.forall_mem_cons] at hih
    cases ys with
    | nil => unfold diffPos Diff.diffPos; simp only [ih [] (i + 1) hih.2]; rfl
    | cons y ys => unfold diffPos Diff.diffPos; simp only [ih ys (i + 1) hih.2, hih.1 y]; rfl

theorem plain_value (s : Bool) (c : Cfg) (p : Addr) (par : Node) : ∀ (xs : List Node) (i : Nat) (rem : List (Nat × Node)),
    (∀ x ∈ xs, PlainAt s c x) → diffValue s (PCfg.plain c) p par i xs rem = .ok (Diff.diffValue s c p i xs rem) := by
  intro xs
  induction xs with
  | nil => intro i rem _; rfl
  | cons x xs ih =>
    intro i rem hih
    rw [List.forall_mem_cons] at hih
    unfold diffValue Diff.diffValue
    cases removeFirst (fun y => eqv y x) rem with
    | none => simp only [ih (i + 1) rem hih.2]
    | some r => simp only [hih.1 r.1.2, ih (i + 1) r.2 hih.2]

theorem plain_key (s : Bool) (c : Cfg) (p : Addr) (par : Node) (deep : Bool) (ka : Key) :
    ∀ (xs : List Node) (i : Nat) (rem : List (Nat × Node)),
    (∀ x ∈ xs, PlainAt s c x) →
    diffKey s (PCfg.plain c) p par deep ka i xs rem = .ok (Diff.diffKey s c p deep ka i xs rem) := by
  intro xs
  induction xs with
  | nil => intro i rem _; rfl
  | cons x xs ih =>
    intro i rem hih
    rw [List.forall_mem_cons] at hih
    have hrec := fun rem' => ih (i + 1) rem' hih.2
    unfold diffKey Diff.diffKey
    cases hx : keyVal ka x with
    | none => simp only [removeFirst_keyless ka x hx, hrec]; rfl
    | some v =>
      simp only [removeFirstAt_ok (keyMatch ka x) _ rem (fun y _ => matchAt_plain c par ka x y hx)]
      cases removeFirst (keyMatch ka x) rem with
      | none => simp only [hrec]; rfl
      | some r =>
        obtain ⟨y, rem'⟩ := r
        simp only [hrec]
        cases deep with
        | false => rfl
        | true => simp only [hih.1 y.2, if_true]; rfl

theorem plain_node (s : Bool) (c : Cfg) : ∀ (l : Node), PlainAt s c l := by
  intro l r
  induction l, r using pairInduct with
  | hscalar a v b w => exact fun _ _ _ => rfl
  | hset a ms b ns => exact fun _ _ _ => rfl
  | hmap a es b fs ih =>
    intro q par pref
    unfold diffBetween Diff.diffBetween
    simp only [plain_dict s c q _ fs es ih]
    rfl
  | hseq a xs b ys ih =>
    intro q par pref
    unfold diffBetween Diff.diffBetween
    simp only [listModeAt_plain, keyAttrAt_plain]
    cases listMode c xs ys with
    | nothing => rfl
    | posShallow => rfl
    | posDeep => exact plain_pos s c q _ xs ys 0 ih
    | value => simp only [plain_value s c q _ xs 0 _ ih]
    | key => exact plain_key s c q _ false _ xs 0 _ ih
    | deep => exact plain_key s c q _ true _ xs 0 _ ih
  | hclash l r h =>
    intro q par pref
    rw [diffBetween_clash s _ q par pref h, Proofs.diffBetween_clash s c q h]

/-- with no `[rules]` the positional condition on the global modes implies the reachability condition -/
theorem posReach_plain (c : Cfg) (hc : Positional c) : ∀ (l r : Node) (par : Option Node) (pref : Option Key),
    posReach (PCfg.plain c) par pref l r = true := by
  intro l
  induction l using nodeInduct with
  | hscalar a v => intro r par pref; cases r <;> simp [posReach]
  | hset a ms => intro r par pref; cases r <;> simp [posReach]
  | hmap a es ih =>
    intro r par pref
    cases r with
    | map b fs =>
      unfold posReach
      induction es with
      | nil => simp [posReachEntries]
      | cons e es ihe =>
        obtain ⟨k, v⟩ := e
        rw [List.forall_mem_cons] at ih
        unfold posReachEntries
        simp only [ihe ih.2, Bool.and_true]
        cases fs.lookup k with
        | none => rfl
        | some w => exact ih.1 w _ _
    | _ => simp [posReach]
  | hseq a xs ih =>
    intro r par pref
    cases r with
    | seq b ys =>
      unfold posReach
      simp only [listModeAt_plain]
      rcases listMode_positional hc xs ys with hm | hm | hm
      · rw [hm]
      · rw [hm]
      · rw [hm]
        simp only
        generalize 0 = i
        generalize Node.seq b ys = par'
        clear hm
        induction xs generalizing ys i with
        | nil => simp [posReachPos]
        | cons x xs ihx =>
          cases ys with
          | nil => simp [posReachPos]
          | cons y ys =>
            rw [List.forall_mem_cons] at ih
            unfold posReachPos
            simp only [ih.1 y, ihx ih.2 ys (i + 1), Bool.and_self]
    | _ => simp [posReach]

end Ypv.Diff.Rules

namespace Ypv.Diff.Proofs
open Ypv Ypv.Diff

/-- **Under positional comparison every entry of a diff is true of the two documents.**
For every entry `e` of the report (`s = false`: the code; also for the strict variant):
a SAME/CHANGE/DELETE entry's left value is what the left document holds at `e.path`,
a SAME/CHANGE/ADD entry's right value is what the right document holds there, SAME values are
equal, CHANGE values differ, an ADD has no left and a DELETE no right value. -/
theorem diff_truthful (s : Bool) (c : Cfg) (hc : Positional c) (l r : Node)
    (hl : wf l = true) (hr : wf r = true) (e : Entry) (he : e ∈ diff s c l r) :
    (e.action ≠ .add → e.lhs.isSome ∧ e.lhs = l.get? e.path)
    ∧ (e.action ≠ .delete → e.rhs.isSome ∧ e.rhs = r.get? e.path)
    ∧ (e.action = .add → e.lhs = none) ∧ (e.action = .delete → e.rhs = none)
    ∧ (e.action = .same → ∃ a b, e.lhs = some a ∧ e.rhs = some b ∧ eqv a b = true)
    ∧ (e.action = .change → ∃ a b, e.lhs = some a ∧ e.rhs = some b ∧ eqv a b = false) := by
  obtain ⟨rep, h1, h2⟩ := Rules.truthful_node s (.plain c) l r [] none none hl hr (Rules.posReach_plain c hc l r none none)
  rw [Rules.plain_node] at h1
  cases h1
  exact (h2 e he).truthful

end Ypv.Diff.Proofs
