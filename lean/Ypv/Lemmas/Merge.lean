import Ypv.Model.Merge
import Ypv.Spec.Merge
/-!
# Lemmas about the merge model (helpers for `Props/C05.lean`)

Outcomes are described by `Ends P x`: a value satisfying `P`, or an error that is no crash.  The
`_merge_dicts` loop is analysed one right-hand pair at a time (`DStep`, `dictLoop_cons_ok`); what the
theorems say about the whole loop are inductions over that, collected in `mergeDicts_ok`.
-/
namespace Ypv.Merge

/-- No Python exception outside the library's own families. -/
def NoCrash {α : Type} (x : Except MErr α) : Prop := ∀ k, x ≠ .error (.crash k)

section
variable {α β : Type} {P Q : α → Prop} {x : Except MErr α} {e : MErr}

theorem NoCrash.ok (a : α) : NoCrash (.ok a : Except MErr α) := fun _ h => nomatch h

theorem NoCrash.error (h : e.isCrash = false) : NoCrash (.error e : Except MErr α) := by
  intro k hk; cases hk; cases h

theorem NoCrash.not_crash (hx : NoCrash x) (h : x = .error e) : e.isCrash = false := by
  cases e with
  | crash k => exact absurd h (hx k)
  | _ => rfl

theorem NoCrash.map (f : α → β) (h : NoCrash x) : NoCrash (x.map f) := by
  cases x with
  | ok a => exact .ok (f a)
  | error e => exact .error (h.not_crash rfl)

/-- On a concrete outcome `Ends P x` reduces to `P a`, or to `false = false` resp. `true = false`: the
leaves of a case split over a model function are `rfl`. -/
def Ends (P : α → Prop) : Except MErr α → Prop
  | .ok a => P a
  | .error e => e.isCrash = false

theorem Ends.noCrash (h : Ends P x) : NoCrash x := by
  intro k hk; subst hk; cases h

theorem Ends.mono (h : Ends P x) (hPQ : ∀ a, P a → Q a) : Ends Q x := by
  cases x with
  | ok a => exact hPQ a h
  | error e => exact h

end

theorem toHash_nc (n : RuleName) : NoCrash n.toHash := by
  intro k h; cases n <;> cases h
theorem toArray_nc (n : RuleName) : NoCrash n.toArray := by
  intro k h; cases n <;> cases h
theorem toAoh_nc (n : RuleName) : NoCrash n.toAoh := by
  intro k h; cases n <;> cases h
theorem toSet_nc (n : RuleName) : NoCrash n.toSet := by
  intro k h; cases n <;> cases h

theorem pick_nc {α : Type} {rule : Option RuleName} {conv : RuleName → Except MErr α}
    (hc : ∀ n, NoCrash (conv n)) {cli dflt : Option α} {b : α} : NoCrash (pick rule conv cli dflt b) := by
  unfold pick
  cases rule with
  | some n => exact hc n
  | none =>
    cases cli with
    | some v => exact .ok v
    | none => cases dflt <;> exact .ok _

theorem hashMode_nc {env : Env} {c : Coords} : NoCrash (hashMode env c) :=
  pick_nc toHash_nc
theorem arrayMode_nc {env : Env} {c : Coords} : NoCrash (arrayMode env c) :=
  pick_nc toArray_nc
theorem aohMode_nc {env : Env} {c : Coords} : NoCrash (aohMode env c) :=
  pick_nc toAoh_nc
theorem setMode_nc {env : Env} {c : Coords} : NoCrash (setMode env c) :=
  pick_nc toSet_nc

theorem shortCircuit_nc {env : Env} {c : Coords} : NoCrash (shortCircuit env c) := by
  unfold shortCircuit
  cases isMap c.node with
  | true => exact hashMode_nc.map _
  | false =>
    cases isSet c.node with
    | true => exact setMode_nc.map _
    | false =>
      cases isAoh c.node with
      | true => exact aohMode_nc.map _
      | false =>
        refine NoCrash.map _ ?_
        unfold nodeRule
        cases ruleFor env c with
        | none => exact .ok none
        | some n => exact (toAoh_nc n).map some

/-- Reading the tag of a merged container succeeds, so "Synchronize any YAML Tag" changes nothing. -/
theorem syncTag_eq {x : Except MErr Node} (h : Ends (tagOf · = .ok ()) x) : syncTag x = x := by
  cases x with
  | error e => rfl
  | ok m => simp only [syncTag, show tagOf m = .ok () from h]

theorem syncTag_nc {x : Except MErr Node} (h : Ends (tagOf · = .ok ()) x) : NoCrash (syncTag x) :=
  (syncTag_eq h).symm ▸ h.noCrash

theorem mergeSets_ends (env : Env) (lv : Node) (ra : Option Str) (rms : List Key) (c : Coords) :
    Ends (tagOf · = .ok ()) (mergeSets env lv ra rms c) := by
  unfold mergeSets
  cases lv with
  | set la lms =>
    simp only
    cases hm : setMode env c with
    | error e => exact setMode_nc.not_crash hm
    | ok mode => cases mode <;> rfl
  | _ => rfl

theorem mergeSimple_ends (env : Env) (lv : Node) (ra : Option Str) (ritems : List Node) (c : Coords) :
    Ends (tagOf · = .ok ()) (mergeSimple env lv ra ritems c) := by
  unfold mergeSimple
  cases lv with
  | seq la litems =>
    simp only
    cases hm : arrayMode env c with
    | error e => exact arrayMode_nc.not_crash hm
    | ok mode => cases mode <;> rfl
  | _ => rfl

theorem dictWrap_ends (lv : Node) (loop : DState → Except MErr DState) (h : ∀ st, NoCrash (loop st)) :
    Ends (tagOf · = .ok ()) (dictWrap lv loop) := by
  unfold dictWrap
  cases lv with
  | map la les =>
    simp only
    cases hl : loop ⟨les, [], 0⟩ with
    | error e => exact (h _).not_crash hl
    | ok st => rfl
  | _ => rfl

mutual
theorem mergeVal_nc (env : Env) (lv : Node) (c : Coords) : (val : Node) → NoCrash (mergeVal env lv c val)
  | .map a res => syncTag_nc (dictWrap_ends lv _ (dictLoop_nc env (.map none res) res))
  | .seq ra ritems => syncTag_nc (mergeLists_ends env lv ra ritems c)
  | .set ra rms => syncTag_nc (mergeSets_ends env lv ra rms c)
  | .scalar a v => NoCrash.ok _
termination_by structural val => val

theorem dictLoop_nc (env : Env) (par : Node) : (res : List (Key × Node)) → ∀ st, NoCrash (dictLoop env par res st)
  | [] => fun st => NoCrash.ok st
  | (k, val) :: rest => by
    intro st
    simp only [dictLoop]
    split
    · exact dictLoop_nc env par rest _
    · split
      · next hs => exact .error (shortCircuit_nc.not_crash hs)
      · exact dictLoop_nc env par rest _
      · exact dictLoop_nc env par rest _
      · split
        · next hm => exact .error ((mergeVal_nc env _ _ val).not_crash hm)
        · exact dictLoop_nc env par rest _
termination_by structural res => res

theorem mergeLists_ends (env : Env) (lv : Node) (ra : Option Str) : (ritems : List Node) → ∀ c,
    Ends (tagOf · = .ok ()) (mergeLists env lv ra ritems c)
  | [] => by intro c; rw [mergeLists]; cases lv <;> rfl
  | first :: rrest => by
    intro c
    cases first with
    | map fa fes =>
      simp only [mergeLists]
      cases lv with
      | seq la litems =>
        simp only
        cases hm : aohMode env c with
        | error e => exact aohMode_nc.not_crash hm
        | ok mode =>
          cases mode with
          | deep =>
            simp only
            split
            · next h1 => exact (aohDeepStep_nc env _ (.map fa fes) litems).not_crash h1
            · split
              · next h2 => exact (aohDeepLoop_nc env _ rrest _).not_crash h2
              · rfl
          | _ => rfl
      | _ => rfl
    | _ => exact mergeSimple_ends env lv ra _ c
termination_by structural ritems => ritems

theorem aohDeepLoop_nc (env : Env) (idKey : Key) : (eles : List Node) → ∀ litems,
    NoCrash (aohDeepLoop env idKey eles litems)
  | [] => fun litems => NoCrash.ok litems
  | ele :: rest => by
    intro litems
    rw [aohDeepLoop]
    split
    · next h1 => exact .error ((aohDeepStep_nc env idKey ele litems).not_crash h1)
    · exact aohDeepLoop_nc env idKey rest _

theorem aohDeepStep_nc (env : Env) (idKey : Key) : (ele : Node) → ∀ litems,
    NoCrash (aohDeepStep env idKey litems ele)
  | .map a es => by
    intro litems
    simp only [aohDeepStep, recordGet]
    split
    · next h => cases h
    · exact .error rfl
    · split
      · exact NoCrash.ok _
      · next lh _ =>
        split
        · next hd =>
          exact .error ((dictWrap_ends lh _ (dictLoop_nc env (.map a es) es)).noCrash.not_crash hd)
        · exact NoCrash.ok _
  | .scalar a v => fun _ => .error rfl
  | .seq a xs => fun _ => .error rfl
  | .set a xs => fun _ => .error rfl
end

open Spec

section
variable {k k' : Key} {v : Node} {es xs ys : List (Key × Node)}

theorem keys_append : keys (xs ++ ys) = keys xs ++ keys ys :=
  List.map_append

theorem keys_setKey : keys (setKey k v es) = keys es := by
  induction es with
  | nil => rfl
  | cons kv rest ih =>
    simp only [setKey]
    split
    · rfl
    · exact congrArg (kv.1 :: ·) ih

theorem lookupKey_none_iff : lookupKey k es = none ↔ k ∉ keys es := by
  induction es with
  | nil => simp [lookupKey, keys]
  | cons kv rest ih =>
    simp only [lookupKey, keys, List.map_cons, List.mem_cons, not_or]
    split
    · next h => exact ⟨nofun, fun h' => absurd h.symm h'.1⟩
    · next h => exact ih.trans ⟨fun h2 => ⟨fun e => h e.symm, h2⟩, (·.2)⟩

theorem lookupKey_mem_keys (h : lookupKey k es = some v) : k ∈ keys es :=
  Classical.byContradiction fun hc => by rw [lookupKey_none_iff.mpr hc] at h; cases h

theorem lookupKey_append : lookupKey k (xs ++ ys) = (lookupKey k xs).or (lookupKey k ys) := by
  induction xs with
  | nil => rfl
  | cons kv rest ih =>
    obtain ⟨k', v⟩ := kv
    simp only [List.cons_append, lookupKey]
    split
    · rfl
    · exact ih

theorem lookupKey_cons_ne (h : k ≠ k') : lookupKey k' ((k, v) :: es) = lookupKey k' es :=
  if_neg h

theorem lookupKey_setKey_ne (h : k' ≠ k) : lookupKey k' (setKey k v es) = lookupKey k' es := by
  induction es with
  | nil => rfl
  | cons kv rest ih =>
    rw [setKey]
    split
    · next e => exact (if_neg (e ▸ h.symm)).trans (if_neg (e ▸ h.symm)).symm
    · exact congrArg (ite _ _) ih

theorem lookupKey_setKey_self {lv : Node} (h : lookupKey k es = some lv) :
    lookupKey k (setKey k v es) = some v := by
  induction es with
  | nil => cases h
  | cons kv rest ih =>
    rw [setKey]
    split
    · next e => exact if_pos e
    · next e =>
      rw [lookupKey, if_neg e] at h ⊢
      exact ih h

end

/-- Inserting a buffer at `pos` when the list is `A ++ B` with the seam at `pos`, or `pos` is past the
end of `A` and `B` is empty (Python's `insert` clamps): the buffer lands between `A` and `B`. -/
theorem foldl_insert_eq (buf : List (Key × Node)) : ∀ (A B : List (Key × Node)) (pos : Nat),
    A.length = pos ∨ A.length ≤ pos ∧ B = [] →
    (buf.foldl (fun (acc : List (Key × Node) × Nat) kv => (insertAt acc.2 kv acc.1, acc.2 + 1)) (A ++ B, pos)).1
      = A ++ buf ++ B := by
  induction buf with
  | nil => intro A B pos _; exact (congrArg (· ++ B) (List.append_nil A)).symm
  | cons kv rest ih =>
    intro A B pos h
    have hins : insertAt pos kv (A ++ B) = A ++ [kv] ++ B := by
      rcases h with rfl | ⟨h, rfl⟩
      · rw [insertAt, List.take_left' rfl, List.drop_left' rfl, List.append_assoc]; rfl
      · rw [List.append_nil, List.append_nil, insertAt, List.take_of_length_le h, List.drop_of_length_le h]
    have h' : (A ++ [kv]).length = pos + 1 ∨ (A ++ [kv]).length ≤ pos + 1 ∧ B = [] := by
      rw [List.length_append]
      rcases h with h | ⟨h, e⟩
      · exact .inl (congrArg Nat.succ h)
      · exact .inr ⟨Nat.succ_le_succ h, e⟩
    simp only [List.foldl_cons, hins]
    rw [ih _ B _ h', List.append_assoc A [kv] rest]
    rfl

section
variable {L : List Key} {st : DState}

theorem flush_entries :
    (flush st).entries = st.entries.take st.pos ++ st.buffer ++ st.entries.drop st.pos := by
  have := foldl_insert_eq st.buffer (st.entries.take st.pos) (st.entries.drop st.pos) st.pos <|
    (Nat.le_total st.pos st.entries.length).imp List.length_take_of_le fun h =>
      ⟨(List.length_take_le ..), List.drop_of_length_le h⟩
  rwa [List.take_append_drop] at this

theorem keys_flush :
    keys (flush st).entries = (keys st.entries).take st.pos ++ keys st.buffer ++ (keys st.entries).drop st.pos := by
  simp only [flush_entries, keys, List.map_append, List.map_take, List.map_drop]

theorem mem_keys_flush {k : Key} :
    k ∈ keys (flush st).entries ↔ k ∈ keys st.entries ∨ k ∈ keys st.buffer := by
  rw [keys_flush, List.mem_append, List.mem_append, or_right_comm, ← List.mem_append, List.take_append_drop]

def InvL (L : List Key) (st : DState) : Prop :=
  (keys st.entries).filter (fun k => L.contains k) = L ∧ ∀ k ∈ keys st.buffer, L.contains k = false

/-- Invariant of the `_merge_dicts` loop for the right-only keys: the left-hand keys `L` are all
still present, buffered keys are not left-hand keys, and **no right-only key sits at or after
`buffer_pos`**. -/
structure InvR (L : List Key) (st : DState) : Prop where
  left : InvL L st
  tail : ∀ k ∈ (keys st.entries).drop st.pos, L.contains k = true

theorem InvR.init (l : List (Key × Node)) : InvR (keys l) ⟨l, [], 0⟩ :=
  ⟨⟨List.filter_eq_self.mpr fun _ hk => List.contains_iff_mem.mpr hk, fun _ hk => nomatch hk⟩,
    fun _ hk => List.contains_iff_mem.mpr hk⟩

theorem InvL.filter_buffer (h : InvL L st) :
    (keys st.buffer).filter (fun k => L.contains k) = [] ∧
    (keys st.buffer).filter (fun k => !L.contains k) = keys st.buffer :=
  ⟨List.filter_eq_nil_iff.mpr fun k hk => ne_true_of_eq_false (h.2 k hk),
    List.filter_eq_self.mpr fun k hk => congrArg (!·) (h.2 k hk)⟩

theorem InvL.not_left (h : InvL L st) {k : Key} (hk : k ∉ keys st.entries) :
    L.contains k = false :=
  Bool.eq_false_iff.mpr fun hc => hk (List.mem_filter.mp (h.1.symm ▸ List.contains_iff_mem.mp hc)).1

end

/-- `lhs[k]` as the loop sees the mapping it is building: the entries, then what is buffered. -/
def look (k : Key) (st : DState) : Option Node := lookupKey k (st.entries ++ st.buffer)

def Disj (st : DState) : Prop := ∀ k ∈ keys st.buffer, k ∉ keys st.entries

theorem Disj_nil (E : List (Key × Node)) (p : Nat) : Disj ⟨E, [], p⟩ := fun _ hk => nomatch hk

theorem look_flush {k : Key} {st : DState} (hd : Disj st) : lookupKey k (flush st).entries = look k st := by
  simp only [look, flush_entries, lookupKey_append]
  cases hB : lookupKey k st.buffer with
  | none =>
    simp only [Option.or_none]
    rw [← lookupKey_append, List.take_append_drop]
  | some v =>
    have h2 : lookupKey k st.entries = none := lookupKey_none_iff.mpr (hd k (lookupKey_mem_keys hB))
    have h1 := h2
    rw [← List.take_append_drop st.pos st.entries, lookupKey_append, Option.or_eq_none_iff] at h1
    simp [h1.1, h1.2, h2]

/-- What the right-hand pair `(k, val)` does to the loop state when the loop goes on.  A key the
left-hand entries lack is buffered.  For a shared key the buffer is flushed, and the new entries `E`
have the keys of the flushed ones, their values under every other key, and under `k` the value
`Spec.Merged` names; `buffer_pos` does not move back. -/
inductive DStep (env : Env) (par : Node) (k : Key) (val : Node) (st : DState) : DState → Prop
  | buffer : lookupKey k st.entries = none →
      DStep env par k val st { st with buffer := st.buffer ++ [(k, val)], pos := st.pos + 1 }
  | shared (lv out : Node) (E : List (Key × Node)) (p : Nat) :
      lookupKey k st.entries = some lv →
      Merged env par k (some lv) val (some out) →
      keys E = keys (flush st).entries →
      (∀ k', k' ≠ k → lookupKey k' E = lookupKey k' (flush st).entries) →
      (lookupKey k (flush st).entries = some lv → lookupKey k E = some out) →
      (flush st).pos ≤ p →
      DStep env par k val st ⟨E, [], p⟩

theorem dictLoop_cons_ok {env : Env} {par : Node} {k : Key} {val : Node} {rest : List (Key × Node)}
    {st st' : DState} (h : dictLoop env par ((k, val) :: rest) st = .ok st') :
    ∃ st1, DStep env par k val st st1 ∧ dictLoop env par rest st1 = .ok st' := by
  simp only [dictLoop] at h
  split at h
  · next hl => exact ⟨_, .buffer hl, h⟩
  · next lv hl =>
    have hset : ∀ out p, Merged env par k (some lv) val (some out) → (flush st).pos ≤ p →
        DStep env par k val st ⟨setKey k out (flush st).entries, [], p⟩ := fun out p hM hp =>
      .shared lv out _ p hl hM keys_setKey (fun _ => lookupKey_setKey_ne) lookupKey_setKey_self hp
    split at h
    · cases h
    · next hs => exact ⟨_, .shared lv lv _ _ hl (.keepLeft _ _ hs) rfl (fun _ _ => rfl) id (Nat.le_refl _), h⟩
    · next hs => exact ⟨_, hset val _ (.takeRight _ _ hs) (Nat.le_refl _), h⟩
    · next hs =>
      split at h
      · cases h
      · next m hm => exact ⟨_, hset m _ (.deep _ _ _ hs hm) (Nat.le_succ _), h⟩

section
variable {env : Env} {par : Node} {k : Key} {val : Node} {st st1 : DState}

theorem DStep.mem_keys (h : DStep env par k val st st1) (k' : Key) :
    k' ∈ keys (st1.entries ++ st1.buffer) ↔ k' ∈ keys (st.entries ++ st.buffer) ∨ k' = k := by
  cases h with
  | buffer hl =>
    simp only [keys_append, List.mem_append, show keys [(k, val)] = [k] from rfl, List.mem_singleton, or_assoc]
  | shared lv out E p hl _ hE _ _ _ =>
    simp only [List.append_nil, hE, mem_keys_flush, keys_append, List.mem_append]
    exact ⟨.inl, fun h => h.elim id fun e => .inl (e ▸ lookupKey_mem_keys hl)⟩

theorem DStep.mem_buffer (h : DStep env par k val st st1) {k' : Key} (hk' : k' ∈ keys st1.buffer) :
    k' ∈ keys st.buffer ∨ k' = k := by
  cases h with
  | buffer hl =>
    simp only [keys_append, List.mem_append] at hk'
    exact hk'.imp_right List.mem_singleton.mp
  | shared => cases hk'

theorem DStep.invR {L : List Key} (h : DStep env par k val st st1) (hi : InvR L st) : InvR L st1 := by
  have hb := fun k' => h.mem_buffer (k' := k')
  cases h with
  | buffer hl =>
    refine ⟨⟨hi.left.1, fun k' hk' => ?_⟩, fun k' hk' => hi.tail k' (List.drop_subset_drop_left _ (Nat.le_succ _) hk')⟩
    rcases hb k' hk' with hk' | rfl
    · exact hi.left.2 k' hk'
    · exact hi.left.not_left (lookupKey_none_iff.mp hl)
  | shared lv out E p _ _ hE _ _ hp =>
    refine ⟨⟨?_, fun _ hk => nomatch hk⟩, fun k' hk' => hi.tail k' ?_⟩
    · rw [hE, keys_flush, List.filter_append, List.filter_append, hi.left.filter_buffer.1, List.append_nil,
        ← List.filter_append, List.take_append_drop]
      exact hi.left.1
    · have hlen : ((keys st.entries).take st.pos ++ keys st.buffer).length ≤ st.pos + st.buffer.length := by
        rw [List.length_append]
        exact Nat.add_le_add (List.length_take_le ..) (Nat.le_of_eq (List.length_map ..))
      have hk := List.drop_subset_drop_left _ hp (hE ▸ hk')
      rw [keys_flush, show (flush st).pos = st.pos + st.buffer.length from rfl, List.drop_append,
        List.drop_of_length_le hlen, List.nil_append] at hk
      exact List.mem_of_mem_drop hk

/-- The right-only keys in place after the step: those before it, and `k` if it is one. -/
theorem DStep.filter_right {L : List Key} (h : DStep env par k val st st1) (hi : InvR L st)
    (hk : k ∈ keys (st.entries ++ st.buffer) → L.contains k = true) :
    (keys st1.entries).filter (fun k => !L.contains k) ++ keys st1.buffer
      = (keys st.entries).filter (fun k => !L.contains k) ++ keys st.buffer
          ++ [k].filter (fun k => !L.contains k) := by
  cases h with
  | buffer hl =>
    rw [List.filter_cons_of_pos (p := fun k => !L.contains k)
      (congrArg (!·) (hi.left.not_left (lookupKey_none_iff.mp hl)))]
    exact (congrArg (_ ++ ·) keys_append).trans (List.append_assoc ..).symm
  | shared lv out E p hl _ hE _ _ _ =>
    have hkL := hk (keys_append ▸ List.mem_append_left _ (lookupKey_mem_keys hl))
    have hd : ((keys st.entries).drop st.pos).filter (fun k => !L.contains k) = [] :=
      List.filter_eq_nil_iff.mpr fun k hk => ne_true_of_eq_false (congrArg (!·) (hi.tail k hk))
    rw [List.filter_cons_of_neg (p := fun k => !L.contains k) (ne_true_of_eq_false (congrArg (!·) hkL))]
    show List.filter _ (keys E) ++ [] = _ ++ []
    -- the flushed buffer lands behind every right-only key already placed (`hd`)
    rw [← List.take_append_drop st.pos (keys st.entries), hE, keys_flush]
    simp only [List.filter_append, hd, hi.left.filter_buffer.2, List.append_nil]

theorem DStep.disj (h : DStep env par k val st st1) (hd : Disj st) : Disj st1 := by
  cases h with
  | buffer hl =>
    intro k2 hk2
    rcases List.mem_append.mp (keys_append ▸ hk2) with hk2 | hk2
    · exact hd k2 hk2
    · cases List.mem_singleton.mp hk2; exact lookupKey_none_iff.mp hl
  | shared => exact Disj_nil _ _

theorem DStep.look_ne (h : DStep env par k val st st1) (hd : Disj st) {k' : Key} (hne : k' ≠ k) :
    look k' st1 = look k' st := by
  cases h with
  | buffer hl =>
    simp only [look, ← List.append_assoc]
    rw [lookupKey_append, lookupKey_cons_ne (Ne.symm hne)]
    exact Option.or_none
  | shared lv out E p _ _ _ hoth _ _ =>
    simp only [look, List.append_nil]
    rw [hoth k' hne, look_flush hd]; rfl

theorem DStep.look_self (h : DStep env par k val st st1) (hd : Disj st) (hb : k ∉ keys st.buffer) :
    Merged env par k (look k st) val (look k st1) := by
  cases h with
  | buffer hl =>
    simp only [look, lookupKey_append, hl, lookupKey_none_iff.mpr hb, Option.none_or, lookupKey, ↓reduceIte]
    exact .rightOnly val
  | shared lv out E p hl hM _ _ hself _ =>
    have hst : look k st = some lv := by rw [look, lookupKey_append, hl]; rfl
    have : look k ⟨E, [], p⟩ = some out := by
      rw [look, List.append_nil]
      exact hself ((look_flush hd).trans hst)
    rw [hst, this]; exact hM

end

section
variable {env : Env} {par : Node} {res : List (Key × Node)} {st st' : DState}

theorem dictLoop_invR {L : List Key} (h : dictLoop env par res st = .ok st') (hi : InvR L st) : InvR L st' := by
  induction res generalizing st with
  | nil => cases h; exact hi
  | cons kv rest ih =>
    obtain ⟨_, hstep, hrest⟩ := dictLoop_cons_ok h
    exact ih hrest (hstep.invR hi)

theorem dictLoop_mem_keys (h : dictLoop env par res st = .ok st') (k' : Key) :
    k' ∈ keys (st'.entries ++ st'.buffer) ↔ k' ∈ keys (st.entries ++ st.buffer) ∨ k' ∈ keys res := by
  induction res generalizing st with
  | nil => cases h; exact ⟨.inl, fun h => h.elim id nofun⟩
  | cons kv rest ih =>
    obtain ⟨_, hstep, hrest⟩ := dictLoop_cons_ok h
    rw [ih hrest, hstep.mem_keys, or_assoc]
    exact or_congr_right List.mem_cons.symm

/-- The right-only half of `OrderOK`, for right-hand keys without duplicates none of which is a
right-only key already placed: the right-only keys of the result are those placed before, the
buffered ones, and those of `res`, in this order. -/
theorem dictLoop_filter_right {L : List Key} (h : dictLoop env par res st = .ok st') (hi : InvR L st)
    (hnd : (keys res).Nodup)
    (hfresh : ∀ k ∈ keys res, k ∈ keys (st.entries ++ st.buffer) → L.contains k = true) :
    (keys (st'.entries ++ st'.buffer)).filter (fun k => !L.contains k)
      = (keys st.entries).filter (fun k => !L.contains k) ++ keys st.buffer
          ++ (keys res).filter (fun k => !L.contains k) := by
  induction res generalizing st with
  | nil =>
    cases h
    rw [keys_append, List.filter_append, hi.left.filter_buffer.2]; exact (List.append_nil _).symm
  | cons kv rest ih =>
    obtain ⟨k, val⟩ := kv
    obtain ⟨hk_rest, hnd'⟩ := List.nodup_cons.mp hnd
    obtain ⟨st1, hstep, hrest⟩ := dictLoop_cons_ok h
    rw [ih hrest (hstep.invR hi) hnd' fun k' hk' hm =>
        ((hstep.mem_keys k').mp hm).elim (hfresh k' (List.mem_cons_of_mem _ hk')) fun e => absurd (e ▸ hk') hk_rest,
      hstep.filter_right hi (hfresh k List.mem_cons_self), List.append_assoc _ ([k].filter _),
      ← List.filter_append]
    rfl

theorem dictLoop_look_notin (h : dictLoop env par res st = .ok st') (hd : Disj st) {k' : Key}
    (hk' : k' ∉ keys res) : look k' st' = look k' st := by
  induction res generalizing st with
  | nil => cases h; rfl
  | cons kv rest ih =>
    obtain ⟨_, hstep, hrest⟩ := dictLoop_cons_ok h
    rw [ih hrest (hstep.disj hd) fun e => hk' (List.mem_cons_of_mem _ e)]
    exact hstep.look_ne hd fun e => hk' (e ▸ List.mem_cons_self)

theorem dictLoop_look (h : dictLoop env par res st = .ok st') (hd : Disj st) (hnd : (keys res).Nodup)
    (hfresh : ∀ k ∈ keys res, k ∉ keys st.buffer) {k' : Key} {rv : Node} (hrv : lookupKey k' res = some rv) :
    Merged env par k' (look k' st) rv (look k' st') := by
  induction res generalizing st with
  | nil => cases hrv
  | cons kv rest ih =>
    obtain ⟨k, val⟩ := kv
    obtain ⟨hk_rest, hnd'⟩ := List.nodup_cons.mp hnd
    obtain ⟨st1, hstep, hrest⟩ := dictLoop_cons_ok h
    by_cases hkk : k = k'
    · subst hkk
      cases (if_pos rfl : lookupKey k ((k, val) :: rest) = some val).symm.trans hrv
      rw [dictLoop_look_notin hrest (hstep.disj hd) hk_rest]
      exact hstep.look_self hd (hfresh k List.mem_cons_self)
    · rw [lookupKey_cons_ne hkk] at hrv
      rw [← hstep.look_ne hd (Ne.symm hkk)]
      refine ih hrest (hstep.disj hd) hnd' (fun k2 hk2 hb => ?_) hrv
      exact (hstep.mem_buffer hb).elim (hfresh k2 (List.mem_cons_of_mem _ hk2)) fun e => hk_rest (e ▸ hk2)

end

theorem mergeDicts_ok {env : Env} {la : Option Str} {l r : List (Key × Node)} {par m : Node}
    (h : mergeDicts env (.map la l) par r = .ok m) :
    ∃ es, m = .map la es ∧
      (∀ k, k ∈ keys es ↔ k ∈ keys l ∨ k ∈ keys r) ∧
      (∀ k, k ∉ keys r → lookupKey k es = lookupKey k l) ∧
      (keys es).filter (fun k => (keys l).contains k) = keys l ∧
      ((keys r).Nodup →
        (∀ k rv, lookupKey k r = some rv → Merged env par k (lookupKey k l) rv (lookupKey k es)) ∧
        (keys es).filter (fun k => !(keys l).contains k) = (keys r).filter (fun k => !(keys l).contains k)) := by
  unfold mergeDicts dictWrap at h
  simp only at h
  split at h
  · cases h
  · next st hl =>
    cases h
    have hi := (dictLoop_invR hl (InvR.init l)).left
    refine ⟨_, rfl, fun k => ?_, fun k hk => ?_, ?_, fun hr => ⟨fun k rv hrv => ?_, ?_⟩⟩
    · simpa only [List.append_nil] using dictLoop_mem_keys hl k
    · simpa only [look, List.append_nil] using dictLoop_look_notin hl (Disj_nil _ _) hk
    · rw [keys_append, List.filter_append, hi.filter_buffer.1, List.append_nil]
      exact hi.1
    · simpa only [look, List.append_nil] using dictLoop_look hl (Disj_nil _ _) hr (fun _ _ => nofun) hrv
    · have h0 : (keys l).filter (fun k => !(keys l).contains k) = [] :=
        List.filter_eq_nil_iff.mpr fun k hk => ne_true_of_eq_false (congrArg (!·) (List.contains_iff_mem.mpr hk))
      rw [dictLoop_filter_right hl (InvR.init l) hr fun k _ hk =>
        List.contains_iff_mem.mpr (by rwa [List.append_nil] at hk)]
      show _ ++ [] ++ _ = _
      rw [h0]; rfl

theorem replaceFirst_append {p : Node → Bool} {new lh : Node} {pre post : List Node}
    (hpre : ∀ x ∈ pre, p x = false) (hlh : p lh = true) :
    replaceFirst p new (pre ++ lh :: post) = pre ++ new :: post := by
  induction pre with
  | nil => exact if_pos hlh
  | cons x rest ih =>
    refine (if_neg (ne_true_of_eq_false (hpre x List.mem_cons_self))).trans (congrArg (x :: ·) ?_)
    exact ih fun y hy => hpre y (List.mem_cons_of_mem _ hy)

theorem aohDeepStep_iff {env : Env} {idKey : Key} {litems out : List Node} {a : Option Str}
    {es : List (Key × Node)} :
    aohDeepStep env idKey litems (.map a es) = .ok out ↔ AohStep env idKey litems a es out := by
  simp only [aohDeepStep, recordGet]
  constructor
  · intro h
    split at h
    · cases h
    · cases h
    · next idv hid =>
      replace hid := Except.ok.inj hid
      split at h
      · next hf =>
        cases h
        exact .append idv hid fun x hx => eq_false_of_ne_true (List.find?_eq_none.mp hf x hx)
      · next lh hf =>
        obtain ⟨hlh, pre, post, e, hpre⟩ := List.find?_eq_some_iff_append.mp hf
        replace hpre := fun x hx => Bool.not_eq_true' _ ▸ hpre x hx
        split at h
        · cases h
        · next m hm =>
          rw [e, replaceFirst_append hpre hlh] at h
          cases h
          exact .merge idv pre lh post m hid e hpre hlh hm
  · intro h
    cases h with
    | append idv hid hall =>
      simp only [hid, List.find?_eq_none.mpr fun x hx => ne_true_of_eq_false (hall x hx)]
    | merge idv pre lh post m hid e hpre hlh hm =>
      simp only [hid, List.find?_eq_some_iff_append.mpr ⟨hlh, pre, post, e, fun x hx => Bool.not_eq_true' _ ▸ hpre x hx⟩,
        show dictWrap lh (dictLoop env (.map a es) es) = .ok m from hm]
      rw [e, replaceFirst_append hpre hlh]

theorem aohDeepStep_nonmap (env : Env) (idKey : Key) (litems : List Node) (ele : Node)
    (h : isMap ele = false) : aohDeepStep env idKey litems ele = .error .merge := by
  cases ele with
  | map => cases h
  | _ => rfl

theorem aohDeepLoop_iff {env : Env} {idKey : Key} {eles : List Node} : ∀ {litems out : List Node},
    aohDeepLoop env idKey eles litems = .ok out ↔ AohDeep env idKey litems eles out := by
  induction eles with
  | nil =>
    intro litems out
    rw [aohDeepLoop]
    exact ⟨fun h => by cases h; exact .nil _, fun h => by cases h; rfl⟩
  | cons ele rest ih =>
    intro litems out
    rw [aohDeepLoop]
    constructor
    · intro h
      split at h
      · cases h
      · next l1 hs =>
        cases ele with
        | map a es => exact .cons _ l1 _ a es rest (aohDeepStep_iff.mp hs) (ih.mp h)
        | _ => cases hs
    · intro h
      cases h with
      | cons _ l1 _ a es _ hstep hrest =>
        rw [aohDeepStep_iff.mpr hstep]
        exact ih.mpr hrest

theorem getElem?_replace_eq {α : Type} (pre post : List α) (b : α) :
    (pre ++ b :: post)[pre.length]? = some b := by
  induction pre with
  | nil => rfl
  | cons _ _ ih => exact ih

theorem getElem?_replace_ne {α : Type} {pre post : List α} {a b : α} {i : Nat} (h : i ≠ pre.length) :
    (pre ++ b :: post)[i]? = (pre ++ a :: post)[i]? := by
  induction pre generalizing i with
  | nil =>
    cases i with
    | zero => exact absurd rfl h
    | succ i => rfl
  | cons x pre ih =>
    cases i with
    | zero => rfl
    | succ i => exact ih fun e => h (congrArg Nat.succ e)

section
variable {env : Env} {idKey : Key} {litems : List Node} {a : Option Str} {es : List (Key × Node)}
  {out : List Node}

theorem AohStep_length (h : AohStep env idKey litems a es out) :
    litems.length ≤ out.length ∧ out.length ≤ litems.length + 1 := by
  cases h with
  | append idv _ _ => simp
  | merge idv pre lh post m _ e _ _ _ => subst e; simp

theorem AohStep_at (h : AohStep env idKey litems a es out) {i : Nat} {x : Node} (hx : litems[i]? = some x) :
    out[i]? = some x ∨ ∃ idv m, lookupKey idKey es = some idv ∧
      recordMatches env idKey (typedNode env idv) x = true ∧
      mergeDicts env x (.map a es) es = .ok m ∧ out[i]? = some m := by
  cases h with
  | append idv _ _ =>
    obtain ⟨hi, _⟩ := List.getElem?_eq_some_iff.mp hx
    exact .inl ((List.getElem?_append_left hi).trans hx)
  | merge idv pre lh post m hid e _ hlh hm =>
    subst e
    by_cases hi : i = pre.length
    · subst hi
      rw [getElem?_replace_eq] at hx; cases hx
      exact .inr ⟨idv, m, hid, hlh, hm, getElem?_replace_eq pre post m⟩
    · exact .inl ((getElem?_replace_ne hi).trans hx)

theorem KeysGrow_trans {x y z : Node} (h1 : KeysGrow x y) (h2 : KeysGrow y z) : KeysGrow x z := by
  cases h1 with
  | same => exact h2
  | grown a es es' h =>
    cases h2 with
    | same => exact KeysGrow.grown a es es' h
    | grown _ _ es'' h' => exact KeysGrow.grown a es es'' (fun k hk => h' k (h k hk))

def HasKeys (K : List Key) (y : Node) : Prop := ∃ a es, y = .map a es ∧ ∀ k ∈ K, k ∈ keys es

theorem HasKeys.grow {K : List Key} {y z : Node} (h : HasKeys K y) (hg : KeysGrow y z) : HasKeys K z := by
  cases hg with
  | same => exact h
  | grown a es es' hsub =>
    obtain ⟨a0, es0, e, hk⟩ := h
    cases e
    exact ⟨a, es', rfl, fun k hk' => hsub k (hk k hk')⟩

theorem mergeDicts_KeysGrow {env : Env} {lh par m : Node} {es : List (Key × Node)}
    (h : mergeDicts env lh par es = .ok m) : KeysGrow lh m ∧ HasKeys (keys es) m := by
  cases lh with
  | map la les =>
    obtain ⟨es', rfl, hk, _⟩ := mergeDicts_ok h
    exact ⟨.grown la les _ fun k hkl => (hk k).mpr (.inl hkl), la, _, rfl, fun k hkr => (hk k).mpr (.inr hkr)⟩
  | _ => cases h

theorem AohStep_has (h : AohStep env idKey litems a es out) :
    ∃ (j : Nat) (y : Node), out[j]? = some y ∧ HasKeys (keys es) y := by
  cases h with
  | append idv _ _ => exact ⟨litems.length, .map a es, getElem?_replace_eq litems [] _, a, es, rfl, fun _ h => h⟩
  | merge idv pre lh post m _ _ _ _ hm =>
    exact ⟨pre.length, m, getElem?_replace_eq pre post m, (mergeDicts_KeysGrow hm).2⟩

end

/-- The hypothesis on `r` stands right of the colon: as a binder, the `match r` of the statement would
abstract over it. -/
theorem mergeWith_eq {cfg : Config} {l r : Node} (hl : ∀ a, l ≠ .scalar a .null) :
    (∀ a, r ≠ .scalar a .null) → mergeWith cfg l r =
      match r with
      | .map ra res => rootTagSync l (insertDict (prepare cfg r) l ra res)
      | .seq ra ritems => rootTagSync l (insertList (prepare cfg r) l ra ritems)
      | .set ra rms => rootTagSync l (insertSet (prepare cfg r) l ra rms)
      | .scalar ra v => insertScalar (prepare cfg r) l ra v := by
  intro hr
  unfold mergeWith
  split
  · exact absurd rfl (hr _)
  · split
    · exact absurd rfl (hl _)
    · rfl

theorem rootTagSync_of_container {l : Node} (h : l.isScalar = false) (x : Except MErr Node) :
    rootTagSync l x = x := by
  cases x with
  | error e => rfl
  | ok m =>
    cases l with
    | scalar => cases h
    | _ => rfl

/-- An Array that holds a container cannot become a Set: the first container is refused (the scalars
before it are set members by the second hypothesis). -/
theorem listToSet_container (items : List Node) : ∀ (acc : List Key),
    (∃ x ∈ items, x.isScalar = false) →
    (∀ x ∈ items, ∀ a v, x = .scalar a v → (scalarKey? v).isSome) →
    listToSet items acc = .error .merge := by
  induction items with
  | nil => rintro _ ⟨_, hx, _⟩; cases hx
  | cons y rest ih =>
    rintro acc ⟨x, hx, hxs⟩ hall
    cases y with
    | scalar a v =>
      obtain rfl | hx := List.mem_cons.mp hx
      · cases hxs
      · obtain ⟨k, hsk⟩ := Option.isSome_iff_exists.mp (hall _ List.mem_cons_self a v rfl)
        simp only [listToSet, setAdd, hsk]
        exact ih _ ⟨x, hx, hxs⟩ fun z hz => hall z (List.mem_cons_of_mem _ hz)
    | _ => rfl

end Ypv.Merge
