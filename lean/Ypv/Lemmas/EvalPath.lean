import Ypv.Lemmas.Doc
import Ypv.Lemmas.PathAcc
/-!
# Every result is reached from the start by child steps whose sections name them (C02)

`Loc` (`Lemmas/Doc.lean`) leaves the path section of a step free.  `LocP d n c ss` is the same
invariant with the section of every step tied to a `Sec` (`Lemmas/PathAcc.lean`) that names the
step inside the parent node (`StepSec`): `[i]` for the reported index `i`; the escaped text `t` for a
key `k` that `t` names (`k` itself, or the integer key `int(t)` found by the string/int fallback of
`_get_nodes_by_key`); the member's text; `[&a]` for a child bearing the anchor `a`.

The handlers are walked once, for any invariant `P` of a node and its coordinates that such a step
keeps (`all_required`; keyword segments aside, collector segments yield nothing): each handler's result
is the node itself or a child reached by one of `child_elem` / `child_entry` / `child_member`.  `Loc d`
and `LocE d` are two such invariants.
-/
namespace Ypv.Acc
open Ypv Ypv.Eval Gen

/-- the `str` entry of a dict under the text `t` -/
def strEntry : Node → Str → Option Node
  | .map _ es, t => es.lookup (.str t)
  | _, _ => none

/-- the key text `t`, looked up in `n` by `_get_nodes_by_key`, names the key `k`: it is the string
key `t`, or the integer key `int(t)` — written canonically, or with no string key `t` beside it -/
def keyNames (n : Node) (t : Str) : Key → Prop
  | .str s => s = t
  | .int i => pyInt? t = some i ∧ (t = pyStrInt i ∨ strEntry n t = none)

theorem keyNames_self (n : Node) (k : Key) : keyNames n k.text k := by
  cases k with
  | str s => rfl
  | int i => exact ⟨pyInt_pyStrInt i, Or.inl rfl⟩

/-- the section `s` names the step from `n` to its child `m` reported under `pr` -/
inductive StepSec (n m : Node) : PRef → Sec → Prop
  | idx (i : Int) : StepSec n m (.idx i) (.idx i)
  | key (k : Key) (t : Str) : keyNames n t k → StepSec n m (.key k) (.key t)
  | member (k : Key) : StepSec n m (.member k) (.key k.text)
  | ancIdx (i : Int) (a : Str) : m.anchor = some a → StepSec n m (.idx i) (.anc a)
  | ancKey (k : Key) (a : Str) : m.anchor = some a → StepSec n m (.key k) (.anc a)

/-- a located node whose path sections are those of the steps `ss` -/
inductive LocP (d : Node) : Node → Ctx → List Sec → Prop
  | root : LocP d d Ctx.root []
  | child {n : Node} {c : Ctx} {ss : List Sec} (r : Ref) (pr : PRef) (s : Sec) (m : Node) :
      LocP d n c ss → n.child? r = some m → prefOk n pr r → StepSec n m pr s →
      LocP d m (c.child r pr s.mtext) (ss ++ [s])

def LocE (d n : Node) (c : Ctx) : Prop := ∃ ss, LocP d n c ss

theorem LocP.loc {d n : Node} {c : Ctx} {ss : List Sec} (h : LocP d n c ss) : Loc d n c := by
  induction h with
  | root => exact Loc.root
  | child r pr s m _ hc hp _ ih => exact Loc.child r pr _ m ih hc hp

theorem LocP.path {d n : Node} {c : Ctx} {ss : List Sec} (h : LocP d n c ss) :
    c.path = ss.map Sec.mtext ∧ ss.length = c.addr.length := by
  induction h with
  | root => exact ⟨rfl, rfl⟩
  | child r pr s m _ _ _ _ ih => simp [Ctx.child, ih.1, ih.2]

theorem LocE.root {d : Node} : LocE d d Ctx.root := ⟨[], LocP.root⟩

def AllLocE (d : Node) (g : Gen NC) : Prop := ∀ x ∈ g.1, LocE d x.1 x.2

/-- A result: a node of which `P` holds, or a virtual list of such. -/
def ResAt (P : Node → Ctx → Prop) : Res → Prop
  | .real nc => P nc.1 nc.2
  | .virt items => ∀ x ∈ items, P x.1 x.2

theorem allRes_real {P : Node → Ctx → Prop} {g : Gen NC} (h : ∀ x ∈ g.1, P x.1 x.2) :
    ∀ r ∈ (g.map Res.real).1, ResAt P r := by
  intro r hr
  obtain ⟨x, hx, rfl⟩ := mem_map_fst hr
  exact h x hx

section Walk
variable {P : Node → Ctx → Prop}
  (step : ∀ {n : Node} {c : Ctx} (r : Ref) (pr : PRef) (s : Sec) (m : Node),
    P n c → n.child? r = some m → prefOk n pr r → StepSec n m pr s → P m (c.child r pr s.mtext))
include step

section
variable {a : Option Str} {items : List Node} {es : List (Key × Node)} {ms : List Key} {c : Ctx}

/-! One child step, by the kind of the parent. -/

theorem child_elem (hl : P (.seq a items) c) {i : Int} {x : Node} (s : Sec) (hin : inRange items.length i = true)
    (hx : items[normIdx items.length i]? = some x) (hs : StepSec (.seq a items) x (.idx i) s) :
    P x (c.child (.idx (normIdx items.length i)) (.idx i) s.mtext) :=
  step _ _ s x hl hx ⟨hin, rfl⟩ hs

theorem child_elemNat (hl : P (.seq a items) c) {j : Nat} {x : Node} (s : Sec) (hx : items[j]? = some x)
    (hs : StepSec (.seq a items) x (.idx j) s) : P x (c.child (.idx j) (.idx j) s.mtext) := by
  have hj : j < items.length := (List.getElem?_eq_some_iff.mp hx).1
  have hin : inRange items.length j = true := by
    simp only [inRange, Bool.and_eq_true, decide_eq_true_eq]
    omega
  have hn : normIdx items.length j = j := by
    simp only [normIdx, if_neg (Int.not_lt.mpr (Int.natCast_nonneg j)), Int.toNat_natCast]
  have := child_elem step hl s hin (hn.symm ▸ hx) hs
  rwa [hn] at this

theorem child_entry (hl : P (.map a es) c) {k : Key} {v : Node} (s : Sec) (hv : es.lookup k = some v)
    (hs : StepSec (.map a es) v (.key k) s) : P v (c.child (.key k) (.key k) s.mtext) :=
  step _ _ s v hl hv rfl hs

theorem child_member (hl : P (.set a ms) c) {k : Key} (hk : k ∈ ms) :
    P k.toNode (c.child (.member k) (.member k) (escSection k.text)) :=
  step _ _ (.key k.text) _ hl (child?_set_member hk) rfl (.member _)

/-! The children an unfiltered handler enumerates. -/

theorem all_seqKids (hl : P (.seq a items) c) : ∀ x ∈ seqKidsFrom c items 0, P x.1 x.2 := by
  intro x hx
  obtain ⟨j, h1, h2⟩ := (mem_idxKids (fun _ => rfl) (fun _ _ _ => rfl)).mp hx
  rw [h2, Nat.zero_add]
  exact child_elemNat step hl (.idx j) h1 (.idx _)

theorem all_mapKids (hl : P (.map a es) c) (hw : (es.map (·.1)).Nodup) : ∀ x ∈ mapKids c es, P x.1 x.2 := by
  intro x hx
  obtain ⟨kv, hkv, rfl⟩ := List.mem_map.mp hx
  exact child_entry step hl (.key kv.1.text) (lookup_of_mem_nodup hw kv hkv) (.key _ _ (keyNames_self _ _))

theorem all_setKids (hl : P (.set a ms) c) : ∀ x ∈ setKids c ms, P x.1 x.2 := by
  intro x hx
  obtain ⟨k, hk, rfl⟩ := List.mem_map.mp hx
  exact child_member step hl hk

end

theorem all_kids {n : Node} {c : Ctx} (hl : P n c) (hw : n.WF) : ∀ x ∈ kids n c, P x.1 x.2 := by
  cases n with
  | scalar a v => exact fun _ hx => nomatch hx
  | seq a items => exact all_seqKids step hl
  | map a es => exact all_mapKids step hl hw.1
  | set a ms => exact all_setKids step hl

theorem all_elemAt {a : Option Str} {items : List Node} {c : Ctx} (hl : P (.seq a items) c) (i : Int) :
    ∀ x ∈ (elemAt items i c).1, P x.1 x.2 := by
  intro y hy
  rcases elemAt_eq items i c with h | ⟨x, hin, hx, h⟩
  · rw [h] at hy; cases hy
  · rw [h] at hy
    cases List.mem_singleton.mp hy
    exact child_elem step hl (.idx i) hin hx (.idx _)

theorem all_keyStep (k : Str) (tl : Bool) (n : Node) (c : Ctx) : P n c → ∀ x ∈ (keyStep k tl n c).1, P x.1 x.2 := by
  refine keyStep_induct k tl (Q := fun n c g => P n c → ∀ x ∈ g.1, P x.1 x.2) (fun _ _ _ _ hy => nomatch hy)
    (fun a es c k' v hv hk hl y hy => ?_) (fun a ms c m hm hk hl y hy => ?_) (fun _ _ _ i hl => all_elemAt step hl i)
    (fun a items c ih hl y hy => ?_) n c
  · cases List.mem_singleton.mp hy
    rcases hk with rfl | ⟨i, hi, rfl, hn⟩
    · exact child_entry step hl (.key k) hv (.key _ _ rfl)
    · exact child_entry step hl (.key k) hv (.key _ _ ⟨hi, Or.inr hn⟩)
  · cases List.mem_singleton.mp hy
    exact hk ▸ child_member step hl hm
  · obtain ⟨x, hx, hy'⟩ := mem_bindList_fst hy
    exact ih x hx (all_seqKids step hl x hx) y hy'

theorem all_passThrough (k : Str) (tl : Bool) {a : Option Str} {c : Ctx} {items suf pre : List Node}
    (hpre : items = pre ++ suf) (hl : P (.seq a items) c) :
    ∀ y ∈ (keyStep.passThrough k tl c suf pre.length).1, P y.1 y.2 := by
  intro y hy
  rw [passThrough_kids] at hy
  obtain ⟨x, hx, hy'⟩ := mem_bindList_fst hy
  obtain ⟨j, h1, h2⟩ := (mem_idxKids (fun _ => rfl) (fun _ _ _ => rfl)).mp hx
  have hx' : items[pre.length + j]? = some x.1 := by
    rw [hpre, List.getElem?_append_right (Nat.le_add_right _ _), Nat.add_sub_cancel_left]
    exact h1
  exact all_keyStep step k tl x.1 x.2 (h2 ▸ child_elemNat step hl (.idx _) hx' (.idx _)) y hy'

theorem all_sliceStep {n : Node} {c : Ctx} (hl : P n c) (hw : n.WF) (lo hi : Str) :
    ∀ r ∈ (sliceStep lo hi n c).1, ResAt P r := by
  cases n with
  | scalar a v => exact fun _ hr => nomatch hr
  | map a es =>
    exact allRes_real (fun x hx => all_mapKids step hl hw.1 x ((sliceOnMap_spec lo hi c es).2.subset hx))
  | set a ms =>
    exact allRes_real (fun x hx => all_setKids step hl x ((sliceOnSet_spec lo hi c ms).2.subset hx))
  | seq a items =>
    intro r hr
    simp only [sliceStep, sliceOnSeq] at hr
    split at hr
    · rename_i x y _ _
      split at hr
      · rename_i h
        obtain ⟨v, hv, hs⟩ := pyGetItem_eq items x h.2
        rw [hv] at hr
        cases List.mem_singleton.mp hr
        intro z hz
        cases List.mem_singleton.mp hz
        exact child_elem step hl (.idx x) h.2 hs (.idx _)
      · obtain ⟨l, h1, h2⟩ := sliceItems_eq items c _ (sliceIndices_lt items.length x y)
        rw [h1] at hr
        cases List.mem_singleton.mp hr
        intro z hz
        obtain ⟨j, hj, hc⟩ := h2 z hz
        rw [hc]
        exact child_elemNat step hl (.idx j) hj (.idx _)
    · cases hr

theorem all_anchorStep {n : Node} {c : Ctx} (hl : P n c) (hw : n.WF) (an : Str) :
    ∀ x ∈ (anchorStep an n c).1, P x.1 x.2 := by
  intro x hx
  obtain ⟨hx, ha⟩ := List.mem_filter.mp hx
  have ha : x.1.anchor = some an := beq_iff_eq.mp ha
  cases n with
  | scalar a v => cases hx
  | set a ms => cases hx
  | seq a items =>
    obtain ⟨j, h1, h2⟩ := (mem_idxKids (F := anchorKids.go an c) (fun _ => rfl) (fun _ _ _ => rfl)).mp hx
    rw [h2, Nat.zero_add]
    exact child_elemNat step hl (.anc an) h1 (.ancIdx _ _ ha)
  | map a es =>
    obtain ⟨kv, hkv, rfl⟩ := List.mem_map.mp hx
    exact child_entry step hl (.anc an) (lookup_of_mem_nodup hw.1 kv hkv) (.ancKey _ _ ha)

variable {mt : Matcher} {dsc : Desc} {rt : Node}

theorem all_searchStep {n : Node} {c : Ctx} (hl : P n c) (hw : n.WF)
    (inv : Bool) (m : Method) (attr term : Str) (tl : Bool) :
    ∀ x ∈ (searchStep mt dsc inv m attr term tl n c).1, P x.1 x.2 := by
  intro x hx
  rcases searchStep_sublist (mt := mt) (dsc := dsc) inv m attr term tl n c with h | h | ⟨a, es, v, rfl, hv, h⟩
  · exact all_kids step hl hw x (h.subset hx)
  · cases List.mem_singleton.mp (h.subset hx)
    exact hl
  · cases List.mem_singleton.mp (h.subset hx)
    exact child_entry step hl (.key attr) hv (.key _ _ rfl)

theorem all_preorder (n : Node) : ∀ c, P n c → n.WF → ∀ x ∈ Spec.preorder n c, P x.1 x.2 := by
  induction n using Node.induct with
  | scalar a v => intro c hl _ x hx; cases List.mem_singleton.mp hx; exact hl
  | set a ms => intro c hl _ x hx; cases List.mem_singleton.mp hx; exact hl
  | seq a items ih =>
    intro c hl hw x hx
    cases hx with
    | head => exact hl
    | tail _ h =>
      rw [preSeq_kids] at h
      obtain ⟨y, hy, hxy⟩ := List.mem_flatMap.mp h
      exact ih y.1 (seqKidsFrom_mem hy) y.2 (all_seqKids step hl y hy) (wfList_mem hw _ (seqKidsFrom_mem hy)) x hxy
  | map a es ih =>
    intro c hl hw x hx
    cases hx with
    | head => exact hl
    | tail _ h =>
      rw [preMap_kids] at h
      obtain ⟨y, hy, hxy⟩ := List.mem_flatMap.mp h
      obtain ⟨kv, hkv, rfl⟩ := List.mem_map.mp hy
      exact ih kv hkv _ (all_mapKids step hl hw.1 _ hy) (wfEntries_mem hw.2 kv hkv) x hxy

theorem all_walk {f : Node → Ctx → Gen NC} {n : Node} {c : Ctx} (hl : P n c) (hw : n.WF)
    (hf : ∀ m cm, P m cm → ∀ y ∈ (f m cm).1, P y.1 y.2) : ∀ y ∈ (walk f n c).1, P y.1 y.2 := by
  rw [walk_eq]
  intro y hy
  obtain ⟨x, hx, hy'⟩ := mem_bindList_fst hy
  exact hf x.1 x.2 (all_preorder step n c hl hw x hx) y hy'

theorem all_stepSeg {n : Node} {c : Ctx} (hl : P n c) (hw : n.WF) (s : ESeg) (hs : s.isKeyword = false)
    (rest : List ESeg) (tl : Bool) : ∀ r ∈ (stepSeg mt dsc rt s rest tl n c).1, ResAt P r := by
  cases s with
  | key k => rw [stepSeg_key]; exact allRes_real (all_keyStep step k tl n c hl)
  | index i =>
    rw [stepSeg_index]
    cases n with
    | seq a items => exact allRes_real (all_elemAt step hl i)
    | _ => exact fun _ hr => nomatch hr
  | slice lo hi => rw [stepSeg_slice]; exact all_sliceStep step hl hw lo hi
  | anchor a => rw [stepSeg_anchor]; exact allRes_real (all_anchorStep step hl hw a)
  | search inv m attr term =>
    rw [stepSeg_search]; exact allRes_real (all_searchStep step hl hw inv m attr term tl)
  | matchAll =>
    cases rest with
    | nil => exact allRes_real (g := Gen.ofList (kids n c)) (all_kids step hl hw)
    | cons nxt rest' =>
      exact allRes_real (fun x hx => all_kids step hl hw x
        ((deepKids_sublist n c).subset (mem_filterFirst_fst hx)))
  | traverse =>
    cases rest with
    | nil =>
      refine allRes_real (all_walk step hl hw (fun m cm h => ?_))
      cases m with
      | scalar a v => exact fun y hy => List.mem_singleton.mp hy ▸ h
      | set a ms => exact all_setKids step h
      | _ => exact fun _ hy => nomatch hy
    | cons nxt rest' =>
      refine allRes_real (all_walk step hl hw (fun m cm h y hy => ?_))
      rw [mem_ifAny_fst hy]
      exact h
  | keyword inv k p => cases hs
  | collector e op => cases rest <;> exact fun _ hr => nomatch hr
  | unknown => cases rest <;> exact fun _ hr => nomatch hr

/-- Every result of `_get_required_nodes` started at a result satisfying `P`, an invariant of
well-formed nodes, satisfies `P`. -/
theorem all_required (wf : ∀ {n : Node} {c : Ctx}, P n c → n.WF) : ∀ (segs : List ESeg),
    (∀ s ∈ segs, s.isKeyword = false) → ∀ (r : Res), ResAt P r → ∀ y ∈ (required mt dsc rt segs r).1, ResAt P y := by
  intro segs
  induction segs with
  | nil => exact fun _ r hr y hy => List.eq_of_mem_singleton hy ▸ hr
  | cons s rest ih =>
    intro hk r hr
    have hstep : ∀ x ∈ (stepRes mt dsc rt s rest r).1, ResAt P x := by
      cases r with
      | real nc => exact all_stepSeg step hr (wf hr) s (hk s List.mem_cons_self) rest true
      | virt items =>
        show ∀ x ∈ (stepVirt s items).1, ResAt P x
        unfold stepVirt
        split
        · split
          · refine allRes_real (fun y hy => ?_)
            obtain ⟨x, hx, hy'⟩ := mem_bindList_fst hy
            exact all_keyStep step _ true x.1 x.2 (hr x hx) y hy'
          · exact fun _ hr => nomatch hr
        · exact fun _ hr => nomatch hr
    intro y hy
    obtain ⟨x, hx, hy'⟩ := mem_bind_fst hy
    exact ih (fun s' hs' => hk s' (List.mem_cons_of_mem _ hs')) x (hstep x hx) y hy'

end Walk

/-- every segment kind but KEYWORD_SEARCH and COLLECTOR -/
def plainKind : ESeg → Bool
  | .keyword .. => false
  | .collector .. => false
  | _ => true

theorem plainKind_notKw {s : ESeg} (h : plainKind s = true) : s.isKeyword = false := by
  cases s with
  | keyword => cases h
  | _ => rfl

variable {d : Node}

/-! `Loc d` and `LocE d` are kept by such a step. -/

theorem loc_child {n : Node} {c : Ctx} (r : Ref) (pr : PRef) (s : Sec) (m : Node) :
    Loc d n c → n.child? r = some m → prefOk n pr r → StepSec n m pr s → Loc d m (c.child r pr s.mtext) :=
  fun h hc hp _ => .child r pr _ m h hc hp

theorem LocE.child {n : Node} {c : Ctx} (r : Ref) (pr : PRef) (s : Sec) (m : Node) :
    LocE d n c → n.child? r = some m → prefOk n pr r → StepSec n m pr s → LocE d m (c.child r pr s.mtext) :=
  fun ⟨ss, h⟩ hc hp hs => ⟨ss ++ [s], LocP.child r pr s m h hc hp hs⟩

theorem allLocE_passThrough (k : Str) (tl : Bool) (a : Option Str) (c : Ctx) (items : List Node) :
    (suf pre : List Node) → items = pre ++ suf → LocE d (.seq a items) c →
      AllLocE d (keyStep.passThrough k tl c suf pre.length) :=
  fun _ _ hpre hl => all_passThrough LocE.child k tl hpre hl

end Ypv.Acc

namespace Ypv.Eval
variable {d : Node}

theorem allLoc_passThrough (k : Str) (tl : Bool) (a : Option Str) (c : Ctx) (items : List Node) :
    (suf pre : List Node) → items = pre ++ suf → Loc d (.seq a items) c →
      AllLoc d (keyStep.passThrough k tl c suf pre.length) :=
  fun _ _ hpre hl => Acc.all_passThrough Acc.loc_child k tl hpre hl

end Ypv.Eval
