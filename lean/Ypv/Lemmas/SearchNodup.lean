import Ypv.Lemmas.Search
import Ypv.Spec.SearchWf
/-!
# C07 "each at most once": the reported addresses are pairwise different

`scan` / `leaves` list a `List.Sublist` of the addresses of the positions they pass over
(`scan_sublist`, `leaves_sublist`: the skip count is `List.drop`), and the addresses of `flat d`
are pairwise different for a document whose mappings have pairwise different keys
(`flat_nodup`: addresses below different children differ in the step after the common prefix).
-/
namespace Ypv.Search.Nd
open Ypv Ypv.Search Ypv.Search.Spec

/-! ## the passes list a sublist of the position addresses -/

theorem leaves_sublist (c : Ctx) (l : List Pos) (seen : List Str) (k : Nat) :
    (leaves c seen k l).1.Sublist (((l.drop k).filter (·.kind ≠ .container)).map Pos.addr) := by
  induction l generalizing seen k with
  | nil => cases k <;> exact List.Sublist.refl _
  | cons p rest ih =>
    cases k with
    | succ k => exact ih seen k
    | zero =>
      have tl : ∀ {x : List SAddr} {k}, x.Sublist (((rest.drop k).filter (·.kind ≠ .container)).map Pos.addr) →
          x.Sublist (((p :: rest).filter (·.kind ≠ .container)).map Pos.addr) := fun h =>
        h.trans ((((List.drop_sublist _ rest).trans (List.sublist_cons_self p rest)).filter _).map _)
      rw [leaves, List.drop_zero]
      rcases hr : yrule c p seen with ⟨v, s⟩
      cases v with
      | leaf =>
        have hk : p.kind ≠ .container := fun hk => by
          rw [yrule, hk] at hr
          dsimp only at hr
          by_cases h1 : (p.merged && !c.pooled) = true
          · rw [if_pos h1] at hr; cases hr
          · rw [if_neg h1] at hr
            split at hr <;> cases hr
        rw [List.filter_cons_of_pos (by simpa using hk)]
        exact (ih s 0).cons_cons _
      | enter => exact tl (ih s 0)
      | pass => exact tl (ih s p.size)

theorem scan_sublist (c : Ctx) (l : List Pos) (seen : List Str) (k : Nat) :
    (scan c seen k l).Sublist ((l.drop k).map Pos.addr) := by
  induction l generalizing seen k with
  | nil => simp [scan_nil]
  | cons p rest ih =>
    cases k with
    | succ k => exact ih seen k
    | zero =>
      have tl : ∀ s k, (scan c s k rest).Sublist (rest.map Pos.addr) := fun s k =>
        (ih s k).trans ((List.drop_sublist k rest).map _)
      rw [scan, List.drop_zero, List.map_cons]
      rcases rule c p seen with ⟨v, s⟩
      cases v with
      | matched =>
        simp only
        split
        · have h1 := (leaves_sublist c (rest.take p.size) s 0).trans ((List.filter_sublist).map _)
          have := h1.append (ih (leaves c s 0 (rest.take p.size)).2 p.size)
          rw [List.drop_zero, ← List.map_append, List.take_append_drop] at this
          exact this.cons _
        · exact (tl s _).cons_cons _
      | pass => exact (tl s _).cons _
      | value hit =>
        cases hit
        · exact (tl s 0).cons _
        · exact (tl s 0).cons_cons _
      | enter => exact (tl s 0).cons _

/-! ## the position addresses of a well-formed document are pairwise different -/

theorem distinctKeys_nodup (l : List Key) (h : distinctKeys l = true) : l.Nodup := by
  induction l with
  | nil => exact List.nodup_nil
  | cons k r ih =>
    simp only [distinctKeys, Bool.and_eq_true, Bool.not_eq_eq_eq_not, Bool.not_true,
      List.contains_eq_mem, decide_eq_false_iff_not] at h
    exact List.nodup_cons.mpr ⟨h.1, ih h.2⟩

theorem step_ne {ad t t' : SAddr} {s s' : SRef} (h : s ≠ s') : ad ++ s :: t ≠ ad ++ s' :: t' :=
  fun e => h (List.cons.inj (List.append_cancel_left e)).1

/-- The addresses of a child at step `s`, of the positions below it, and of siblings at other steps are
pairwise different: the child's address is shorter than those below it, and the siblings' addresses leave
`ad` by another step. -/
theorem nodup_child {ad : SAddr} {s : SRef} {below rest : List SAddr} (hb : below.Nodup) (hr : rest.Nodup)
    (h1 : ∀ a ∈ below, ∃ r t, a = (ad ++ [s]) ++ r :: t)
    (h2 : ∀ a ∈ rest, ∃ s' t, s' ≠ s ∧ a = ad ++ s' :: t) : ((ad ++ [s]) :: (below ++ rest)).Nodup := by
  have h1' : ∀ a ∈ below, ∃ t, a = ad ++ s :: t ∧ t ≠ [] := fun a ha => by
    obtain ⟨r, t, e⟩ := h1 a ha
    exact ⟨r :: t, by rw [e, List.append_assoc]; rfl, List.cons_ne_nil _ _⟩
  refine List.nodup_cons.mpr ⟨fun hm => ?_, List.nodup_append.mpr ⟨hb, hr, fun a ha b hb' e => ?_⟩⟩
  · rcases List.mem_append.mp hm with hm | hm
    · obtain ⟨t, e, ht⟩ := h1' _ hm
      exact ht (List.cons.inj (List.append_cancel_left e)).2.symm
    · obtain ⟨s', t, hs, e⟩ := h2 _ hm
      exact step_ne hs e.symm
  · obtain ⟨t, rfl, _⟩ := h1' a ha
    obtain ⟨s', t', hs, rfl⟩ := h2 b hb'
    exact step_ne hs e.symm

theorem flatMembers_addr (ad : SAddr) (ms : List AKey) :
    (flatMembers ms ad).map Pos.addr = ms.map (fun m => ad ++ [.member m.key]) := by
  induction ms with
  | nil => rfl
  | cons m r ih => rw [flatMembers, List.map_cons, List.map_cons, ih]

theorem flatRefs_addr (ad : SAddr) (rs : List Str) (j : Nat) :
    (flatRefs rs j ad).map Pos.addr = (List.range' j rs.length).map (fun i => ad ++ [.mref i]) := by
  induction rs generalizing j with
  | nil => rfl
  | cons n r ih => rw [flatRefs, List.map_cons, ih (j + 1)]; rfl

mutual
theorem flat_addr : ∀ (n : SNode) (ad : SAddr), ∀ a ∈ (flat n ad).map Pos.addr, ∃ r t, a = ad ++ r :: t
  | .scalar _ _ => fun _ _ h => nomatch h
  | .seq _ items => fun ad a h => by
    obtain ⟨j, t, _, e⟩ := flatItems_addr items 0 ad a h
    exact ⟨_, _, e⟩
  | .map _ own merged refs => fun ad a h => by
    simp only [flat, List.map_append, List.mem_append] at h
    rcases h with h | h | h
    · obtain ⟨k, t, _, e⟩ := flatEntries_addr false own ad a h
      exact ⟨_, _, e⟩
    · obtain ⟨k, t, _, e⟩ := flatEntries_addr true merged ad a h
      exact ⟨_, _, e⟩
    · rw [flatRefs_addr, List.mem_map] at h
      obtain ⟨i, _, rfl⟩ := h
      exact ⟨_, _, rfl⟩
  | .set _ ms => fun ad a h => by
    simp only [flat, flatMembers_addr, List.mem_map] at h
    obtain ⟨m, _, rfl⟩ := h
    exact ⟨_, _, rfl⟩
theorem flatItems_addr : ∀ (items : List SNode) (i : Nat) (ad : SAddr), ∀ a ∈ (flatItems items i ad).map Pos.addr,
    ∃ j t, i ≤ j ∧ a = ad ++ .idx j :: t
  | [] => fun _ _ _ h => nomatch h
  | e :: r => fun i ad a h => by
    simp only [flatItems, List.map_cons, List.map_append, List.mem_cons, List.mem_append] at h
    rcases h with rfl | h | h
    · exact ⟨i, [], Nat.le_refl _, rfl⟩
    · obtain ⟨x, t, rfl⟩ := flat_addr e _ a h
      exact ⟨i, x :: t, Nat.le_refl _, List.append_assoc ..⟩
    · obtain ⟨j, t, hj, e⟩ := flatItems_addr r (i + 1) ad a h
      exact ⟨j, t, Nat.le_of_succ_le hj, e⟩
theorem flatEntries_addr : ∀ (mg : Bool) (es : List (AKey × SNode)) (ad : SAddr),
    ∀ a ∈ (flatEntries mg es ad).map Pos.addr, ∃ k t, k ∈ es.map (·.1.key) ∧ a = ad ++ .key k :: t
  | _, [] => fun _ _ h => nomatch h
  | mg, (k, v) :: r => fun ad a h => by
    simp only [flatEntries, List.map_cons, List.map_append, List.mem_cons, List.mem_append] at h
    rcases h with rfl | h | h
    · exact ⟨k.key, [], List.mem_cons_self, rfl⟩
    · obtain ⟨x, t, rfl⟩ := flat_addr v _ a h
      exact ⟨k.key, x :: t, List.mem_cons_self, List.append_assoc ..⟩
    · obtain ⟨k', t, hk, e⟩ := flatEntries_addr mg r ad a h
      exact ⟨k', t, List.mem_cons_of_mem _ hk, e⟩
end

theorem flatMembers_nodup (ms : List AKey) (ad : SAddr) (h : (ms.map (·.key)).Nodup) :
    ((flatMembers ms ad).map Pos.addr).Nodup := by
  rw [flatMembers_addr]
  exact List.pairwise_map.mpr ((List.pairwise_map.mp h).imp fun hne e => hne (by simpa using e))

theorem flatRefs_nodup (rs : List Str) (j : Nat) (ad : SAddr) : ((flatRefs rs j ad).map Pos.addr).Nodup := by
  rw [flatRefs_addr]
  exact List.pairwise_map.mpr ((List.nodup_range' (step := 1) (by decide)).imp fun hne e => hne (by simpa using e))

mutual
theorem flat_nodup : ∀ (n : SNode) (ad : SAddr), wfKeys n = true → ((flat n ad).map Pos.addr).Nodup
  | .scalar _ _ => fun _ _ => List.nodup_nil
  | .seq _ items => fun ad h => flatItems_nodup items 0 ad h
  | .map _ own merged refs => fun ad h => by
    simp only [wfKeys, Bool.and_eq_true] at h
    obtain ⟨hd, ho, hm⟩ := h
    have hd := List.nodup_append.mp (distinctKeys_nodup _ hd)
    have href : ∀ b ∈ (flatRefs refs 0 ad).map Pos.addr, ∃ i, b = ad ++ [.mref i] := fun b hb => by
      rw [flatRefs_addr, List.mem_map] at hb
      obtain ⟨i, _, rfl⟩ := hb
      exact ⟨i, rfl⟩
    simp only [flat, List.map_append]
    refine List.nodup_append.mpr ⟨flatEntries_nodup false own ad hd.1 ho,
      List.nodup_append.mpr ⟨flatEntries_nodup true merged ad hd.2.1 hm, flatRefs_nodup refs 0 ad, ?_⟩, ?_⟩
    · intro a ha b hb
      obtain ⟨k, t, _, rfl⟩ := flatEntries_addr true merged ad a ha
      obtain ⟨i, rfl⟩ := href b hb
      exact step_ne (by simp)
    · intro a ha b hb
      obtain ⟨k, t, hk, rfl⟩ := flatEntries_addr false own ad a ha
      rcases List.mem_append.mp hb with hb | hb
      · obtain ⟨k', t', hk', rfl⟩ := flatEntries_addr true merged ad b hb
        exact step_ne fun e => hd.2.2 k hk k' hk' (SRef.key.inj e)
      · obtain ⟨i, rfl⟩ := href b hb
        exact step_ne (by simp)
  | .set _ ms => fun ad h => flatMembers_nodup ms ad (distinctKeys_nodup _ h)
theorem flatItems_nodup : ∀ (items : List SNode) (i : Nat) (ad : SAddr), wfKeysItems items = true →
    ((flatItems items i ad).map Pos.addr).Nodup
  | [] => fun _ _ _ => List.nodup_nil
  | e :: r => fun i ad h => by
    simp only [wfKeysItems, Bool.and_eq_true] at h
    simp only [flatItems, List.map_cons, List.map_append]
    refine nodup_child (flat_nodup e _ h.1) (flatItems_nodup r (i + 1) ad h.2) (flat_addr e _) fun a ha => ?_
    obtain ⟨j, t, hj, rfl⟩ := flatItems_addr r (i + 1) ad a ha
    exact ⟨_, t, fun e => Nat.ne_of_gt hj (SRef.idx.inj e), rfl⟩
theorem flatEntries_nodup : ∀ (mg : Bool) (es : List (AKey × SNode)) (ad : SAddr),
    (es.map (·.1.key)).Nodup → wfKeysEntries es = true → ((flatEntries mg es ad).map Pos.addr).Nodup
  | _, [] => fun _ _ _ => List.nodup_nil
  | mg, (k, v) :: r => fun ad hd h => by
    simp only [wfKeysEntries, Bool.and_eq_true] at h
    simp only [List.map_cons, List.nodup_cons] at hd
    simp only [flatEntries, List.map_cons, List.map_append]
    refine nodup_child (flat_nodup v _ h.1) (flatEntries_nodup mg r ad hd.2 h.2) (flat_addr v _) fun a ha => ?_
    obtain ⟨k', t, hk', rfl⟩ := flatEntries_addr mg r ad a ha
    exact ⟨_, t, fun e => hd.1 (SRef.key.inj e ▸ hk'), rfl⟩
end

end Ypv.Search.Nd
