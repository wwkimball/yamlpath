import Ypv.Lemmas.PathSim
import Ypv.Lemmas.Search
import Ypv.Spec.SearchResolve
/-!
# The path texts the search builds (C07 `search_paths_reresolve`)

1. `escape_path_section` (the 12-pass `ensure_escaped` fold plus the leading-slash rule)
   is the C08 writer's escaping `escText` — a token text (`secToks`) — for every text without two
   adjacent backslashes (`noDbl`; with them the first pass takes the pair for an escaped backslash:
   finding C07-K6).
2. Every hit of the search carries the text `pathText c [] ps` of a walk `ps` from the root to its
   address (`s_good`, unconditional; mutual induction over the search functions).
3. That text is `textAll` of loosely written segments (or, for a merge reference below the root,
   that followed by a separator and `[&name]`), which the C08 engine parses, renders and parses again
   (`printed_parse`).
4. The simple resolver `resolve` follows the re-parsed segments to exactly the walked address
   (`resolve_walk`).
-/
namespace Ypv.Search.Rr
open Ypv Ypv.Sim Ypv.Search

variable (c : Ctx)

/-! ## 1. `escape_path_section` as a token text -/

theorem noDbl_tail {a : Char} {t : Str} (h : noDbl (a :: t) = true) : noDbl t = true := by
  cases t with
  | nil => rfl
  | cons b r => simp only [noDbl, Bool.and_eq_true] at h; exact h.2

/-- the first `ensure_escaped` pass (symbol `\`) doubles every backslash -/
theorem esc1_bs (t : Str) (h : noDbl t = true) :
    esc1 '\\' t = tokText (t.map (fun c => (c == '\\', c))) := by
  induction t with
  | nil => rfl
  | cons a t ih =>
    have hstep : ∀ X : Str, (if a = '\\' then '\\' :: a :: X else a :: X) = Tok.text (a == '\\', a) ++ X := fun X => by
      by_cases ha : a = '\\'
      · subst ha; rfl
      · simp [Tok.text, ha]
    have ih' := ih (noDbl_tail h)
    cases t with
    | nil => exact hstep []
    | cons b r =>
      have hab : ¬ (a = '\\' ∧ ('\\' ≠ '\\' ∨ b = '\\')) := by
        simp only [noDbl, Bool.and_eq_true, Bool.not_eq_true', Bool.and_eq_false_iff,
          decide_eq_false_iff_not] at h
        rintro ⟨ha, hb | hb⟩
        · exact hb rfl
        · exact h.1.elim (· ha) (· hb)
      rw [esc1, if_neg hab, ih']
      exact hstep _

theorem ensureEscaped_cons (s : Char) (r : List Char) (v : Str) :
    ensureEscaped (s :: r) v = ensureEscaped r (esc1 s v) := rfl

theorem markAll_keySyms (sep c : Char) :
    markAll (keySyms sep) (c == '\\', c) = (special sep c, c) := by
  simp only [markAll, keySyms, special, List.contains_cons, List.contains_nil, Bool.or_false, Bool.or_assoc]
  rfl

/-- The twelve passes of `ensure_escaped` escape exactly the special characters: `escText`. -/
theorem ensureEscaped_section {sep : Char} (hsep : sep = '.' ∨ sep = '/') (t : Str)
    (h : noDbl t = true) : ensureEscaped (sectionSyms sep) t = escText sep t := by
  rw [sectionSyms, ensureEscaped_cons, esc1_bs t h,
    ensureEscaped_tokText _ (keySyms_nobs hsep), List.map_map, ← tokText_tokenize]
  · congr 1
    simp only [tokenize]
    apply List.map_congr_left
    intro c _
    exact markAll_keySyms sep c
  · intro u hu
    simp only [List.mem_map] at hu
    obtain ⟨c, _, rfl⟩ := hu
    by_cases hc : c = '\\'
    · exact Or.inl (beq_iff_eq.mpr hc)
    · exact Or.inr hc

/-- the tokens of `escape_path_section(t, sep)`: the special characters escaped, and a leading `/`
in dot notation -/
def secToks (sep : Char) : Str → List Tok
  | [] => []
  | c :: r => (special sep c || (c == '/' && sep != '/'), c) :: tokenize sep r

theorem tokChars_secToks (sep : Char) (t : Str) : tokChars (secToks sep t) = t := by
  cases t with
  | nil => rfl
  | cons c r =>
    have := tokChars_tokenize sep r
    simp only [tokChars] at this ⊢
    simp [secToks, this]

theorem secToks_ne {sep : Char} {t : Str} (h : t ≠ []) : secToks sep t ≠ [] := by
  cases t with
  | nil => exact absurd rfl h
  | cons c r => simp [secToks]

/-- `escape_path_section` (the twelve passes and the leading-slash rule) writes the token text `secToks`. -/
theorem escapePathSection_eq {sep : Char} (hsep : sep = '.' ∨ sep = '/') (t : Str)
    (h : noDbl t = true) : escapePathSection sep t = tokText (secToks sep t) := by
  unfold escapePathSection
  simp only [ensureEscaped_section hsep t h]
  cases t with
  | nil => rfl
  | cons c r =>
    have e1 : escText sep (c :: r) = escChar sep c ++ escText sep r := rfl
    have e2 : tokText (secToks sep (c :: r)) =
        Tok.text (special sep c || (c == '/' && sep != '/'), c) ++ escText sep r :=
      congrArg _ (tokText_tokenize sep r)
    rw [e1, e2]
    by_cases hs : special sep c = true
    · simp [escChar, hs, Tok.text]
    · by_cases hx : c = '/' ∧ sep ≠ '/'
      · obtain ⟨rfl, hne⟩ := hx
        simp [escChar, hs, Tok.text, hne]
      · simp [escChar, hs, Tok.text, hx]

/-- every token of `secToks` that `tokenize` escapes stays escaped -/
theorem secToks_allBare {sep : Char} {stk : List Char} {t : Str}
    (h : allBare sep stk (tokenize sep t)) : allBare sep stk (secToks sep t) := by
  cases t with
  | nil => intro u hu; simp [secToks] at hu
  | cons c r =>
    intro u hu
    simp only [secToks, List.mem_cons] at hu
    rcases hu with rfl | hu
    · rcases h (special sep c, c) (by simp [tokenize]) with h1 | h1
      · left; simp only at h1; simp [h1]
      · right; exact h1
    · exact h u (by simp only [tokenize, List.map_cons, List.mem_cons]; right; exact hu)

/-! ## 2. Every hit carries the text of a walk to its address -/

/-- one step of a walk, as the search writes it -/
inductive PStep
  | key (k : Key)      -- a mapping entry or a set member, by its key text
  | idx (i : Nat)      -- a sequence element without anchor: `[i]`
  | anc (a : Str)      -- an anchored sequence element: `[&a]`
  | mref (name : Str)  -- a merge reference: separator, `[&name]`
  deriving DecidableEq, Repr

/-- the build path after one more step -/
def PStep.app (c : Ctx) (bp : Str) : PStep → Str
  | .key k => keyPath c (mapPrefix c bp) k
  | .idx i => itemPath c (seqPrefix c bp) i none
  | .anc a => itemPath c (seqPrefix c bp) 0 (some a)
  | .mref n => mrefPath c (mapPrefix c bp) n

def itemStep (i : Nat) : Option Str → PStep
  | none => .idx i
  | some a => .anc a

theorem itemStep_app (bp : Str) (i : Nat) (a : Option Str) :
    (itemStep i a).app c bp = itemPath c (seqPrefix c bp) i a := by
  cases a <;> rfl

/-- the path text of a walk that starts with build path `bp` -/
def pathText (c : Ctx) : Str → List PStep → Str
  | bp, [] => rootFix c bp
  | bp, s :: r => pathText c (s.app c bp) r

/-- `Walk n r ps`: the address `r` leads from node `n` along existing children, and `ps` is how the
search writes it -/
inductive Walk : SNode → SAddr → List PStep → Prop
  | nil (n : SNode) : Walk n [] []
  | idx {a : Option Str} {items : List SNode} {i : Nat} {e : SNode} {r : SAddr} {ps : List PStep} :
      items[i]? = some e → Walk e r ps → Walk (.seq a items) (.idx i :: r) (itemStep i e.anchor :: ps)
  | key {a : Option Str} {own merged : List (AKey × SNode)} {refs : List Str} {k : AKey} {v : SNode}
      {r : SAddr} {ps : List PStep} :
      (k, v) ∈ own ++ merged → Walk v r ps →
      Walk (.map a own merged refs) (.key k.key :: r) (.key k.key :: ps)
  | mref {a : Option Str} {own merged : List (AKey × SNode)} {refs : List Str} {j : Nat} {name : Str} :
      refs[j]? = some name → Walk (.map a own merged refs) [.mref j] [.mref name]
  | member {a : Option Str} {ms : List AKey} {k : AKey} :
      k ∈ ms → Walk (.set a ms) [.member k.key] [.key k.key]

/-- what is claimed of a hit found below node `n` reached with build path `bp` at address `ad` -/
def Good (c : Ctx) (n : SNode) (bp : Str) (ad : SAddr) (h : Hit) : Prop :=
  ∃ r ps, h.addr = ad ++ r ∧ Walk n r ps ∧ h.path = pathText c bp ps

/-- `Good` for a hit found at or below element `i'` of a sequence -/
def GoodItem (c : Ctx) (full : List SNode) (bp1 : Str) (ad : SAddr) (h : Hit) : Prop :=
  ∃ i' e r ps, full[i']? = some e ∧ h.addr = ad ++ (.idx i' :: r) ∧ Walk e r ps ∧
    h.path = pathText c (itemPath c bp1 i' e.anchor) ps

/-- `Good` for a hit found at or below an entry of a mapping -/
def GoodEntry (c : Ctx) (es : List (AKey × SNode)) (bp1 : Str) (ad : SAddr) (h : Hit) : Prop :=
  ∃ k v r ps, (k, v) ∈ es ∧ h.addr = ad ++ (.key k.key :: r) ∧ Walk v r ps ∧
    h.path = pathText c (keyPath c bp1 k.key) ps

theorem rootFix_of_ne {t : Str} (h : c.o.fslash = true → t ≠ []) : rootFix c t = t := by
  unfold rootFix
  split
  · rename_i hh; exact absurd hh.1 (h hh.2)
  · rfl

theorem itemPath_ne (bp1 : Str) (i : Nat) (a : Option Str) : itemPath c bp1 i a ≠ [] := by
  cases a <;> exact List.append_ne_nil_of_right_ne_nil _ (List.cons_ne_nil _ _)

theorem keyPath_ne {bp1 : Str} (h : bp1 ≠ []) (k : Key) : keyPath c bp1 k ≠ [] := by
  simp [keyPath, h]

theorem mapPrefix_ne (bp : Str) (hf : c.o.fslash = true) : mapPrefix c bp ≠ [] := by
  unfold mapPrefix
  split
  · simp
  · simp

theorem good_self (n : SNode) {bp p : Str} (hp : rootFix c bp = p) (ad : SAddr) : Good c n bp ad ⟨p, ad⟩ :=
  ⟨[], [], (List.append_nil _).symm, .nil n, hp.symm⟩

section
variable {c} {a : Option Str} {bp bp1 : Str} {ad : SAddr} {h : Hit}

theorem good_seq {items : List SNode} (hg : GoodItem c items (seqPrefix c bp) ad h) :
    Good c (.seq a items) bp ad h := by
  obtain ⟨i', e, r, ps, h1, h2, h3, h4⟩ := hg
  exact ⟨.idx i' :: r, itemStep i' e.anchor :: ps, h2, .idx h1 h3, by rw [pathText, itemStep_app]; exact h4⟩

theorem good_map {own merged : List (AKey × SNode)} {refs : List Str}
    (hg : GoodEntry c (own ++ merged) (mapPrefix c bp) ad h) : Good c (.map a own merged refs) bp ad h := by
  obtain ⟨k, v, r, ps, h1, h2, h3, h4⟩ := hg
  exact ⟨.key k.key :: r, .key k.key :: ps, h2, .key h1 h3, h4⟩

theorem good_set {ms : List AKey} (hm : ∃ k ∈ ms, h = ⟨keyPath c (mapPrefix c bp) k.key, ad ++ [.member k.key]⟩) :
    Good c (.set a ms) bp ad h := by
  obtain ⟨k, hk, rfl⟩ := hm
  exact ⟨[.member k.key], [.key k.key], rfl, .member hk,
    (rootFix_of_ne c fun hf => keyPath_ne c (mapPrefix_ne c bp hf) _).symm⟩

theorem goodItem_of_child {full : List SNode} {i : Nat} {e : SNode} (he : full[i]? = some e)
    (hg : Good c e (itemPath c bp1 i e.anchor) (ad ++ [.idx i]) h) : GoodItem c full bp1 ad h := by
  obtain ⟨r, ps, h1, h2, h3⟩ := hg
  exact ⟨i, e, r, ps, he, by simp [h1], h2, h3⟩

theorem goodEntry_of_child {es : List (AKey × SNode)} {k : AKey} {v : SNode} (he : (k, v) ∈ es)
    (hg : Good c v (keyPath c bp1 k.key) (ad ++ [.key k.key]) h) : GoodEntry c es bp1 ad h := by
  obtain ⟨r, ps, h1, h2, h3⟩ := hg
  exact ⟨k, v, r, ps, he, by simp [h1], h2, h3⟩

theorem GoodEntry.mono {es es' : List (AKey × SNode)} (hg : GoodEntry c es bp1 ad h) (hs : es ⊆ es') :
    GoodEntry c es' bp1 ad h := by
  obtain ⟨k, v, r, ps, h1, h2⟩ := hg
  exact ⟨k, v, r, ps, hs h1, h2⟩

end

theorem mem_ite_singleton {α : Type} {p : Prop} [Decidable p] {a x : α} {l : List α}
    (h : a ∈ if p then [x] else l) : a = x ∨ a ∈ l := by
  split at h
  · exact Or.inl (List.mem_singleton.mp h)
  · exact Or.inr h

theorem mem_valueHit {c : Ctx} {v : Scalar} {tmp : Str} {a' : SAddr} {h : Hit}
    (hh : h ∈ valueHit c v tmp a') : h = ⟨tmp, a'⟩ :=
  (mem_ite_singleton hh).resolve_right List.not_mem_nil

theorem getElem?_of_drop {α : Type} {full : List α} {i : Nat} {e : α} {r : List α}
    (h : full.drop i = e :: r) : full[i]? = some e ∧ full.drop (i + 1) = r :=
  ⟨by rw [← List.head?_drop, h]; rfl, by rw [← List.tail_drop, h]; rfl⟩

theorem ycMembers_mem (bp1 : Str) (ad : SAddr) (ms : List AKey) (seen : List Str) :
    ∀ h ∈ (ycMembers c ms bp1 ad seen).1, ∃ k ∈ ms, h = ⟨keyPath c bp1 k.key, ad ++ [.member k.key]⟩ := by
  intro h hh
  induction ms generalizing seen with
  | nil => cases hh
  | cons k rest ih =>
    simp only [ycMembers, List.mem_append] at hh
    rcases hh with hh | hh
    · split at hh
      · cases hh
      · exact ⟨k, List.mem_cons_self, List.mem_singleton.mp hh⟩
    · obtain ⟨k', hk', e⟩ := ih _ hh
      exact ⟨k', List.mem_cons_of_mem _ hk', e⟩

theorem sMembers_mem (bp1 : Str) (ad : SAddr) (ms : List AKey) (seen : List Str) :
    ∀ h ∈ (sMembers c ms bp1 ad seen).1, ∃ k ∈ ms, h = ⟨keyPath c bp1 k.key, ad ++ [.member k.key]⟩ := by
  intro h hh
  induction ms generalizing seen with
  | nil => cases hh
  | cons k rest ih =>
    simp only [sMembers, List.mem_append] at hh
    rcases hh with hh | hh
    · refine ⟨k, List.mem_cons_self, ?_⟩
      rcases mem_ite_singleton hh with e | hh
      · exact e
      · exact (mem_ite_singleton hh).resolve_right List.not_mem_nil
    · obtain ⟨k', hk', e⟩ := ih _ hh
      exact ⟨k', List.mem_cons_of_mem _ hk', e⟩

theorem ymk_mem (bp1 : Str) (ad : SAddr) (full : List Str) {names : List Str} {j : Nat} (hd : full.drop j = names) :
    ∀ h ∈ ymk c names j bp1 ad, ∃ j' name, full[j']? = some name ∧
      h = ⟨mrefPath c bp1 name, ad ++ [.mref j']⟩ := by
  intro h hh
  induction names generalizing j with
  | nil => cases hh
  | cons name rest ih =>
    obtain ⟨h1, h2⟩ := getElem?_of_drop hd
    simp only [ymk, List.mem_append] at hh
    rcases hh with hh | hh
    · exact ⟨j, name, h1, (mem_ite_singleton hh).resolve_right List.not_mem_nil⟩
    · exact ih h2 hh

theorem ycChild_good (skip : Bool) (n : SNode) {tmp : Str} (ht : c.o.fslash = true → tmp ≠ [])
    (a' : SAddr) (seen : List Str) (ih : ∀ h ∈ (ycNode c n tmp a' seen).1, Good c n tmp a' h) :
    ∀ h ∈ (ycChild c skip n tmp a' seen).1, Good c n tmp a' h := by
  intro h hh
  unfold ycChild at hh
  cases skip with
  | true => cases hh
  | false =>
    rw [if_neg Bool.false_ne_true] at hh
    by_cases hn : n.isContainer = true
    · rw [if_pos hn] at hh
      exact ih h hh
    · rw [if_neg hn] at hh
      rw [List.mem_singleton.mp hh]
      exact good_self c n (rootFix_of_ne c ht) a'

mutual
theorem yc_good (c : Ctx) : ∀ (n : SNode) (bp : Str) (ad : SAddr) (seen : List Str),
    ∀ h ∈ (ycNode c n bp ad seen).1, Good c n bp ad h
  | .scalar a v => fun bp ad seen h hh => by
    rw [List.mem_singleton.mp hh]
    exact good_self c _ rfl ad
  | .seq a items => fun bp ad seen h hh =>
    good_seq (yc_items_good c items 0 (seqPrefix c bp) ad seen items rfl h hh)
  | .set a ms => fun bp ad seen h hh => good_set (ycMembers_mem c _ ad ms seen h hh)
  | .map a own merged refs => fun bp ad seen h hh => by
    have hown := fun s hh => good_map (a := a) (refs := refs)
      ((yc_entries_good c own (mapPrefix c bp) (mapPrefix_ne c bp) ad s h hh).mono (List.subset_append_left own merged))
    rw [ycNode_map] at hh
    split at hh
    · rcases List.mem_append.mp hh with hh | hh
      · exact hown _ hh
      · exact good_map ((yc_entries_good c merged (mapPrefix c bp) (mapPrefix_ne c bp) ad _ h hh).mono
          (List.subset_append_right own merged))
    · exact hown _ hh
theorem yc_items_good (c : Ctx) : ∀ (items : List SNode) (i : Nat) (bp1 : Str) (ad : SAddr)
    (seen : List Str) (full : List SNode), full.drop i = items →
    ∀ h ∈ (ycItems c items i bp1 ad seen).1, GoodItem c full bp1 ad h
  | [] => fun _ _ _ _ _ _ _ hh => nomatch hh
  | e :: rest => fun i bp1 ad seen full hd h hh => by
    obtain ⟨he, hd'⟩ := getElem?_of_drop hd
    rw [ycItems_cons] at hh
    rcases List.mem_append.mp hh with hh | hh
    · exact goodItem_of_child he
        (ycChild_good c _ e (fun _ => itemPath_ne c _ _ _) _ _ (yc_good c e _ _ _) h hh)
    · exact yc_items_good c rest (i + 1) bp1 ad _ full hd' h hh
theorem yc_entries_good (c : Ctx) : ∀ (es : List (AKey × SNode)) (bp1 : Str)
    (_ : c.o.fslash = true → bp1 ≠ []) (ad : SAddr) (seen : List Str),
    ∀ h ∈ (ycEntries c es bp1 ad seen).1, GoodEntry c es bp1 ad h
  | [] => fun _ _ _ _ _ hh => nomatch hh
  | (k, v) :: rest => fun bp1 hb ad seen h hh => by
    rw [ycEntries_cons] at hh
    rcases List.mem_append.mp hh with hh | hh
    · exact goodEntry_of_child (k := k) List.mem_cons_self
        (ycChild_good c _ v (fun hf => keyPath_ne c (hb hf) _) _ _ (yc_good c v _ _ _) h hh)
    · exact (yc_entries_good c rest bp1 hb ad _ h hh).mono (List.subset_cons_self _ _)
end

theorem emit_good (n : SNode) {tmp : Str} (ht : c.o.fslash = true → tmp ≠ []) (a' : SAddr)
    (seen : List Str) : ∀ h ∈ (emit c n tmp a' seen).1, Good c n tmp a' h := by
  intro h hh
  unfold emit at hh
  split at hh
  · exact yc_good c n tmp a' seen h hh
  · rw [List.mem_singleton.mp hh]
    exact good_self c n (rootFix_of_ne c ht) a'

theorem sChild_good (kh : Bool) (A : AM) (n : SNode) {tmp : Str} (ht : c.o.fslash = true → tmp ≠ [])
    (a' : SAddr) (seen : List Str) (ih : ∀ h ∈ (sNode c n tmp a' seen).1, Good c n tmp a' h) :
    ∀ h ∈ (sChild c kh A n tmp a' seen).1, Good c n tmp a' h := by
  intro h hh
  unfold sChild at hh
  cases kh with
  | true => exact emit_good c n ht a' seen h hh
  | false =>
    rw [if_neg Bool.false_ne_true] at hh
    by_cases h1 : Spec.valueRepeat c A = true
    · rw [if_pos h1] at hh
      cases hh
    · rw [if_neg h1] at hh
      by_cases h2 : A.hit = true
      · rw [if_pos h2] at hh
        exact emit_good c n ht a' seen h hh
      · rw [if_neg h2] at hh
        cases n with
        | scalar a v =>
          rw [mem_valueHit hh]
          exact good_self c _ (rootFix_of_ne c ht) a'
        | _ => exact ih h hh

mutual
theorem s_good (c : Ctx) : ∀ (n : SNode) (bp : Str) (ad : SAddr) (seen : List Str),
    ∀ h ∈ (sNode c n bp ad seen).1, Good c n bp ad h
  | .scalar a v => fun bp ad seen h hh => by
    have hh : h ∈ (if bp = [] ∧ v ≠ .null then valueHit c v (rootFix c bp) ad else []) := hh
    split at hh
    · rw [mem_valueHit hh]
      exact good_self c _ rfl ad
    · cases hh
  | .seq a items => fun bp ad seen h hh =>
    good_seq (s_items_good c items 0 (seqPrefix c bp) ad seen items rfl h hh)
  | .set a ms => fun bp ad seen h hh => good_set (sMembers_mem c _ ad ms seen h hh)
  | .map a own merged refs => fun bp ad seen h hh => by
    rw [sNode_map] at hh
    rcases List.mem_append.mp hh with hh | hh
    · rcases List.mem_append.mp hh with hh | hh
      · exact good_map ((s_entries_good c own (mapPrefix c bp) (mapPrefix_ne c bp) ad _ h hh).mono
          (List.subset_append_left own merged))
      · split at hh
        · exact good_map ((s_entries_good c merged (mapPrefix c bp) (mapPrefix_ne c bp) ad _ h hh).mono
            (List.subset_append_right own merged))
        · cases hh
    · split at hh
      · obtain ⟨j, name, h1, rfl⟩ := ymk_mem c (mapPrefix c bp) ad refs (j := 0) rfl h hh
        exact ⟨[.mref j], [.mref name], rfl, .mref h1,
          (rootFix_of_ne c (fun _ => List.append_ne_nil_of_right_ne_nil _ (List.cons_ne_nil _ _))).symm⟩
      · cases hh
theorem s_items_good (c : Ctx) : ∀ (items : List SNode) (i : Nat) (bp1 : Str) (ad : SAddr)
    (seen : List Str) (full : List SNode), full.drop i = items →
    ∀ h ∈ (sItems c items i bp1 ad seen).1, GoodItem c full bp1 ad h
  | [] => fun _ _ _ _ _ _ _ hh => nomatch hh
  | e :: rest => fun i bp1 ad seen full hd h hh => by
    obtain ⟨he, hd'⟩ := getElem?_of_drop hd
    rw [sItems_cons] at hh
    rcases List.mem_append.mp hh with hh | hh
    · exact goodItem_of_child he
        (sChild_good c _ _ e (fun _ => itemPath_ne c _ _ _) _ _ (s_good c e _ _ _) h hh)
    · exact s_items_good c rest (i + 1) bp1 ad _ full hd' h hh
theorem s_entries_good (c : Ctx) : ∀ (es : List (AKey × SNode)) (bp1 : Str)
    (_ : c.o.fslash = true → bp1 ≠ []) (ad : SAddr) (seen : List Str),
    ∀ h ∈ (sEntries c es bp1 ad seen).1, GoodEntry c es bp1 ad h
  | [] => fun _ _ _ _ _ hh => nomatch hh
  | (k, v) :: rest => fun bp1 hb ad seen h hh => by
    rw [sEntries_cons] at hh
    rcases List.mem_append.mp hh with hh | hh
    · exact goodEntry_of_child (k := k) List.mem_cons_self
        (sChild_good c _ _ v (fun hf => keyPath_ne c (hb hf) _) _ _ (s_good c v _ _ _) h hh)
    · exact (s_entries_good c rest bp1 hb ad _ h hh).mono (List.subset_cons_self _ _)
end

/-! ## 3. The text of a walk is a loosely written segment list; printing and re-parsing it -/

/-- what the chain parse → render → parse needs of one loosely written segment (no collectors, no
first-position anchors) -/
structure Plain (sep : Char) (l : LSeg) : Prop where
  wf : l.WF sep false
  nc : l.isColl = false
  nt : l.isTop = false
  ok : RenderOK l
  nb : l.NB
  hd : ∃ ch k, l.text '.' false = ch :: k ∧ ch ≠ '/'

theorem isInter_of_not_coll {l : LSeg} (h : l.isColl = false) : l.isInter = false := by
  cases l with
  | collector _ _ => cases h
  | _ => rfl

theorem plain_wfFrom {sep : Char} : ∀ (L : List LSeg), (∀ l ∈ L, Plain sep l) →
    wfFromL sep false L ∧ lastAc false L = false := by
  intro L h
  induction L with
  | nil => exact ⟨trivial, rfl⟩
  | cons l r ih =>
    have h1 := h l List.mem_cons_self
    have ih := ih fun x hx => h x (List.mem_cons_of_mem _ hx)
    simp only [wfFromL, lastAc, h1.nc]
    exact ⟨⟨h1.wf, ih.1⟩, ih.2⟩

theorem textFrom_snoc (sep : Char) (l : LSeg) (L : List LSeg) (lead : Bool) :
    textFrom sep lead (L ++ [l]) = textFrom sep lead L ++ l.text sep (lead || !L.isEmpty) := by
  induction L generalizing lead with
  | nil => simp [textFrom]
  | cons x r ih => simp [textFrom, ih true]

theorem textAll_snoc (f : Bool) (l : LSeg) (L : List LSeg) :
    textAll f (L ++ [l]) = textAll f L ++ l.text (sepOf f) (!L.isEmpty) := by
  cases f <;> simp [textAll, textFrom_snoc, sepOf]

theorem printed_of (f : Bool) (t : Str) (u : List Seg) (hn : normOriginal t = t)
    (hs : (inferSep t).isFslash = f) (hu : parseWith f false t = .ok u) :
    printed t = .ok (render f u) := by
  subst hs
  simp only [printed, PathObj.str, PathObj.new, PathObj.setOriginal, PathObj.unescaped, PathObj.parseObj,
    PathObj.getSep, hn, hu, ite_self, ne_eq, not_true_eq_false, if_false, if_true]

theorem plain_raw {f : Bool} {L : List LSeg} (hp : ∀ l ∈ L, Plain (sepOf f) l) (x : Str) (hx : L = [] → x = []) :
    normOriginal (textAll f L ++ x) = textAll f L ++ x ∧ (inferSep (textAll f L ++ x)).isFslash = f := by
  cases f with
  | true =>
    exact ⟨normOriginal_of_nonblank ⟨'/', by simp [textAll], by decide⟩, by simp [textAll, inferSep, SepOpt.isFslash]⟩
  | false =>
    cases L with
    | nil => rw [hx rfl]; exact ⟨rfl, rfl⟩
    | cons l r =>
      have hl := hp l List.mem_cons_self
      obtain ⟨ch, hc, hw⟩ := text_nonblank (sep := '.') l hl.nb
      obtain ⟨ch', k, ht, hc'⟩ := hl.hd
      exact ⟨normOriginal_of_nonblank ⟨ch, by simp [textAll, textFrom, hc], hw⟩,
        by simp [textAll, textFrom, ht, inferSep, hc', SepOpt.isFslash]⟩

/-- **parse → `str()` → parse** for a text that is a loosely written list of plain segments, or such a
list followed by a separator and one more bracketed segment (the form of a merge reference). -/
theorem roundtrip_texts (f : Bool) (L : List LSeg) (hp : ∀ l ∈ L, Plain (sepOf f) l) (t : Str)
    (ht : t = textAll f L ∨ ∃ L0 l, L = L0 ++ [l] ∧ L0 ≠ [] ∧
      t = textAll f L0 ++ sepOf f :: l.text (sepOf f) false) :
    ∃ S, printed t = .ok S ∧ parseWith f true S = .ok (L.map (LSeg.seg true)) := by
  obtain ⟨hW, _⟩ := plain_wfFrom L hp
  have hraw : normOriginal t = t ∧ (inferSep t).isFslash = f ∧
      parseWith f false t = .ok (L.map (LSeg.seg false)) := by
    rcases ht with rfl | ⟨L0, l, rfl, hne, rfl⟩
    · obtain ⟨hn, hs⟩ := plain_raw hp [] fun _ => rfl
      rw [List.append_nil] at hn hs
      exact ⟨hn, hs, parseWith_texts f false L hW hn⟩
    · have hp0 : ∀ x ∈ L0, Plain (sepOf f) x := fun x hx => hp x (List.mem_append_left _ hx)
      obtain ⟨hW0, hac⟩ := plain_wfFrom L0 hp0
      have hl := hp l (List.mem_append_right _ List.mem_cons_self)
      obtain ⟨hn, hs⟩ := plain_raw hp0 (sepOf f :: l.text (sepOf f) false) fun h => absurd h hne
      exact ⟨hn, hs, (parseWith_texts_snoc f false L0 l hW0 hne (by rw [hac]; exact hl.wf) (isInter_of_not_coll hl.nc)
        _ rfl hn).trans (congrArg _ (List.map_append (l₂ := [l])).symm)⟩
  obtain ⟨hn, hs, hu⟩ := hraw
  refine ⟨_, printed_of f t _ hn hs hu, ?_⟩
  exact render_parse f L hW (fun l hl => (hp l hl).ok) (fun l hl => (hp l (List.mem_of_mem_tail hl)).nt)
    (fun l hl => (hp l (List.mem_of_mem_head? hl)).nb)

/-! ### the steps of a walk as plain segments -/

def PStep.ok : PStep → Bool
  | .key k => okKeyText (keyText k)
  | .idx _ => true
  | .anc a => okName a
  | .mref n => okName n

def PStep.isMref : PStep → Bool
  | .mref _ => true
  | _ => false

def PStep.lseg (sep : Char) : PStep → LSeg
  | .key k => .key (secToks sep (keyText k))
  | .idx i => .index i
  | .anc a => .anchor false (secToks sep a)
  | .mref n => .anchor false (secToks sep n)

/-- the segment a step is read back as -/
def PStep.seg : PStep → Seg
  | .key k => (.key, .str (keyText k))
  | .idx i => (.index, .int i)
  | .anc a => (.anchor, .str a)
  | .mref n => (.anchor, .str n)

theorem lseg_seg (sep : Char) (s : PStep) : (s.lseg sep).seg true = s.seg := by
  cases s <;> simp [PStep.lseg, PStep.seg, LSeg.seg, tokView, tokChars_secToks]

theorem secToks_head {sep : Char} (hsep : sep = '.' ∨ sep = '/') {t : Str} (ht : t ≠ []) :
    ∃ ch k, tokText (secToks sep t) = ch :: k ∧ ch ≠ '/' := by
  cases t with
  | nil => exact absurd rfl ht
  | cons c r =>
    have e : tokText (secToks sep (c :: r)) =
        Tok.text (special sep c || (c == '/' && sep != '/'), c) ++ tokText (tokenize sep r) := rfl
    rw [e, Tok.text]
    by_cases he : (special sep c || (c == '/' && sep != '/')) = true
    · rw [if_pos he]
      exact ⟨_, _, rfl, by decide⟩
    · rw [if_neg he]
      refine ⟨_, _, rfl, ?_⟩
      rintro rfl
      rcases hsep with rfl | rfl <;> exact he rfl

theorem plain_step {sep : Char} (hsep : sep = '.' ∨ sep = '/') (s : PStep) (hs : s.ok = true) :
    Plain sep (s.lseg sep) := by
  have anc : ∀ a, okName a = true → Plain sep (.anchor false (secToks sep a)) := fun a hs => by
    simp only [okName, Bool.and_eq_true, decide_eq_true_eq, Bool.not_eq_true', ne_eq] at hs
    obtain ⟨⟨⟨hne, hstar⟩, hop⟩, _⟩ := hs
    refine ⟨⟨secToks_ne hne, secToks_allBare (allBare_br sep hop)⟩, rfl, rfl, ?_, trivial,
      '[', _, rfl, by decide⟩
    show '*' ∉ tokChars (secToks sep a)
    rw [tokChars_secToks]; simpa using hstar
  cases s with
  | idx i =>
    exact ⟨trivial, rfl, rfl, trivial, trivial, '[', _, rfl, by decide⟩
  | key k =>
    have hs : okKeyText (keyText k) = true := hs
    show Plain sep (.key (secToks sep (keyText k)))
    generalize keyText k = t at hs ⊢
    simp only [okKeyText, Bool.and_eq_true] at hs
    -- the writer's token text `tokenize` has these properties (C08); `secToks` only raises the first flag
    have hwf : wfSeg false (.key, .str t) = true := (Bool.and_true _).trans hs.1
    obtain ⟨hne, hamp, _, hbare, hstar⟩ := toL_wf (sep := sep) (.key, .str t) hwf
    obtain ⟨u, hu, hnb⟩ := toL_nb (sep := sep) (.key, .str t) hwf
    cases t with
    | nil => exact absurd rfl hne
    | cons c0 r =>
      have hup : ∀ {b : Bool}, b = true → (b || (c0 == '/' && sep != '/')) = true := fun h => by rw [h]; rfl
      obtain ⟨ch, k', h1, h2⟩ := secToks_head hsep (List.cons_ne_nil c0 r)
      refine ⟨⟨List.cons_ne_nil _ _, ?_, (fun h => nomatch h), secToks_allBare hbare, ?_⟩, rfl, rfl, trivial, ?_,
        ch, k', h1, h2⟩
      · intro x hx
        cases hx
        exact (hamp _ rfl).imp hup id
      · rw [tokChars_secToks]
        rwa [tokChars_tokenize] at hstar
      · rcases List.mem_cons.mp hu with rfl | hu
        · exact ⟨_, List.mem_cons_self, hnb.imp hup id⟩
        · exact ⟨u, List.mem_cons_of_mem _ hu, hnb⟩
  | anc a => exact anc a hs
  | mref a => exact anc a hs

/-- a merge reference is only ever the last step -/
def noInnerMref : List PStep → Bool
  | [] => true
  | s :: r => (r.isEmpty || !s.isMref) && noInnerMref r

theorem itemStep_notMref (i : Nat) (a : Option Str) : (itemStep i a).isMref = false := by
  cases a <;> rfl

theorem walk_noInner {n : SNode} {r : SAddr} {ps : List PStep} (h : Walk n r ps) :
    noInnerMref ps = true := by
  induction h with
  | nil => rfl
  | idx _ _ ih => simp [noInnerMref, itemStep_notMref, ih]
  | key _ _ ih => simp [noInnerMref, PStep.isMref, ih]
  | mref _ => rfl
  | member _ => rfl

theorem sep_ok : c.sep = '.' ∨ c.sep = '/' := by
  unfold Ctx.sep; split <;> simp

theorem esc_eq (t : Str) (h : noDbl t = true) : esc c t = tokText (secToks c.sep t) :=
  escapePathSection_eq (sep_ok c) t h

theorem step_text (s : PStep) (hs : s.ok = true) (bp : Str) :
    s.app c bp = (match s with
      | .key _ => mapPrefix c bp
      | .mref _ => mapPrefix c bp
      | _ => rootFix c bp) ++ (s.lseg c.sep).text c.sep false := by
  cases s with
  | key k =>
    simp only [PStep.ok, okKeyText, Bool.and_eq_true] at hs
    simp [PStep.app, keyPath, esc_eq c _ hs.2, PStep.lseg, LSeg.text, sepIf]
  | idx i => simp [PStep.app, itemPath, seqPrefix, PStep.lseg, LSeg.text, pyStrInt]
  | anc a =>
    simp only [PStep.ok, okName, Bool.and_eq_true] at hs
    simp [PStep.app, itemPath, seqPrefix, esc_eq c _ hs.2, PStep.lseg, LSeg.text]
  | mref a =>
    simp only [PStep.ok, okName, Bool.and_eq_true] at hs
    simp [PStep.app, mrefPath, esc_eq c _ hs.2, PStep.lseg, LSeg.text]

theorem app_ne (s : PStep) (hs : s.ok = true) (bp : Str) : s.app c bp ≠ [] := by
  rw [step_text c s hs]
  exact List.append_ne_nil_of_right_ne_nil _ (text_ne (plain_step (sep_ok c) s hs).wf)

theorem prefix_nil : mapPrefix c [] = textAll c.o.fslash [] ∧ rootFix c [] = textAll c.o.fslash [] := by
  cases hf : c.o.fslash <;> simp [mapPrefix, rootFix, textAll, textFrom, hf, Ctx.sep]

theorem app_nil (s : PStep) (hs : s.ok = true) : s.app c [] = textAll c.o.fslash [s.lseg c.sep] := by
  rw [step_text c s hs, ← List.nil_append [s.lseg c.sep], textAll_snoc]
  cases s <;> simp only [(prefix_nil c).1, (prefix_nil c).2] <;> rfl

theorem app_textAll {L : List LSeg} {bp : Str} (hL : L ≠ []) (hb : bp ≠ []) (hbp : bp = textAll c.o.fslash L)
    (s : PStep) (hs : s.ok = true) (hm : s.isMref = false) :
    s.app c bp = textAll c.o.fslash (L ++ [s.lseg c.sep]) := by
  have h3 : (!L.isEmpty) = true := by
    cases L with
    | nil => exact absurd rfl hL
    | cons _ _ => rfl
  rw [step_text c s hs, textAll_snoc, h3, ← hbp]
  cases s with
  | key k =>
    simp only [mapPrefix, if_pos hb, PStep.lseg, LSeg.text, sepIf, if_true, Bool.false_eq_true, if_false,
      List.nil_append, List.append_assoc]
    rfl
  | mref a => cases hm
  | _ => simp only [rootFix_of_ne c (fun _ => hb)]; rfl

/-- the text of a walk continued from a non-empty build path: the loosely written list of all steps, or — when
it ends in a merge reference — the list without the last step, a separator, and `[&name]` -/
theorem pathText_form (ps : List PStep) {L : List LSeg} {bp : Str} (hL : L ≠ []) (hb : bp ≠ [])
    (hbp : bp = textAll c.o.fslash L) (hok : ∀ s ∈ ps, s.ok = true) (hni : noInnerMref ps = true) :
    pathText c bp ps = textAll c.o.fslash (L ++ ps.map (PStep.lseg c.sep)) ∨
    ∃ L0 l, L ++ ps.map (PStep.lseg c.sep) = L0 ++ [l] ∧ L0 ≠ [] ∧
      pathText c bp ps = textAll c.o.fslash L0 ++ c.sep :: l.text c.sep false := by
  induction ps generalizing L bp with
  | nil => exact Or.inl (by rw [List.map_nil, List.append_nil, ← hbp]; exact rootFix_of_ne c fun _ => hb)
  | cons s r ih =>
    have hs := hok s List.mem_cons_self
    simp only [noInnerMref, Bool.and_eq_true, Bool.or_eq_true, List.isEmpty_iff, Bool.not_eq_true'] at hni
    cases hm : s.isMref with
    | false =>
      have := ih (List.append_ne_nil_of_right_ne_nil L (List.cons_ne_nil (s.lseg c.sep) [])) (app_ne c s hs bp)
        (app_textAll c hL hb hbp s hs hm) (fun x hx => hok x (List.mem_cons_of_mem _ hx)) hni.2
      rw [List.append_assoc] at this
      exact this
    | true =>
      cases s with
      | mref a =>
        have hr0 : r = [] := hni.1.resolve_right (by rw [hm]; exact Bool.noConfusion)
        subst hr0
        refine Or.inr ⟨L, PStep.lseg c.sep (.mref a), rfl, hL, ?_⟩
        rw [pathText, pathText, rootFix_of_ne c fun _ => app_ne c _ hs bp, step_text c _ hs, ← hbp]
        simp only [mapPrefix, if_pos hb, List.append_assoc]
        rfl
      | _ => cases hm

/-- **Printing and re-parsing the text of a walk**: `str(YAMLPath(text))` succeeds and the printed text,
parsed in the notation it was printed in, is the list of the walk's segments. -/
theorem printed_parse (ps : List PStep) (hok : ∀ s ∈ ps, s.ok = true)
    (hni : noInnerMref ps = true) :
    ∃ S, printed (pathText c [] ps) = .ok S ∧ parseWith c.o.fslash true S = .ok (ps.map PStep.seg) := by
  have hpl : ∀ l ∈ ps.map (PStep.lseg c.sep), Plain (sepOf c.o.fslash) l := fun l hl => by
    obtain ⟨s, hs, rfl⟩ := List.mem_map.mp hl
    exact plain_step (sep_ok c) s (hok s hs)
  have hform : pathText c [] ps = textAll c.o.fslash (ps.map (PStep.lseg c.sep)) ∨
      ∃ L0 l, ps.map (PStep.lseg c.sep) = L0 ++ [l] ∧ L0 ≠ [] ∧
        pathText c [] ps = textAll c.o.fslash L0 ++ c.sep :: l.text c.sep false := by
    cases ps with
    | nil => exact Or.inl (prefix_nil c).2
    | cons s r =>
      have hs := hok s List.mem_cons_self
      simp only [noInnerMref, Bool.and_eq_true] at hni
      exact pathText_form c r (List.cons_ne_nil (s.lseg c.sep) []) (app_ne c s hs []) (app_nil c s hs)
        (fun x hx => hok x (List.mem_cons_of_mem _ hx)) hni.2
  obtain ⟨S, h1, h2⟩ := roundtrip_texts c.o.fslash (ps.map (PStep.lseg c.sep)) hpl (pathText c [] ps) hform
  refine ⟨S, h1, ?_⟩
  rw [h2, List.map_map]
  exact congrArg _ (List.map_congr_left fun s _ => lseg_seg c.sep s)

/-! ## 4. The resolver follows the segments of a walk to its address -/

theorem filter_of_countP_one {α : Type} {p : α → Bool} {es : List α} {x : α} (h : es.countP p = 1) (hx : x ∈ es)
    (hp : p x = true) : es.filter p = [x] := by
  rw [List.countP_eq_length_filter] at h
  obtain ⟨y, hy⟩ := List.length_eq_one_iff.mp h
  have hm : x ∈ es.filter p := List.mem_filter.mpr ⟨hx, hp⟩
  rw [hy] at hm ⊢
  rw [List.mem_singleton.mp hm]

theorem filterMap_ite {α β : Type} (p : α → Bool) (g : α → β) (es : List α) :
    es.filterMap (fun e => if p e then some (g e) else none) = (es.filter p).map g := by
  induction es with
  | nil => rfl
  | cons y ys ih =>
    cases hy : p y
    · rw [List.filterMap_cons_none (by rw [hy]; rfl), List.filter_cons_of_neg (by rw [hy]; exact Bool.false_ne_true), ih]
    · rw [List.filterMap_cons_some (by rw [hy]; rfl), List.filter_cons_of_pos hy, ih]; rfl

theorem countP_cons_one {α : Type} {p : α → Bool} {x e : α} {xs : List α} (h : (x :: xs).countP p = 1)
    (he : e ∈ xs) (hp : p e = true) : ¬ p x = true ∧ xs.countP p = 1 := by
  have hx : ¬ p x = true := fun hx => by
    rw [List.countP_cons, if_pos hx] at h
    exact Nat.ne_of_gt (List.countP_pos_iff.mpr ⟨e, he, hp⟩) (Nat.succ.inj h)
  rw [List.countP_cons, if_neg hx] at h
  exact ⟨hx, h⟩

theorem ancItems_none (a : Str) {items : List SNode} (i0 : Nat)
    (h : items.countP (fun x => x.anchor == some a) = 0) : ancItems a items i0 = [] := by
  induction items generalizing i0 with
  | nil => rfl
  | cons x xs ih =>
    have hx : ¬ (x.anchor == some a) = true := fun hx => by rw [List.countP_cons, if_pos hx] at h; cases h
    rw [List.countP_cons, if_neg hx] at h
    rw [ancItems, if_neg hx, ih (i0 + 1) h]; rfl

theorem ancItems_unique (a : Str) {items : List SNode} {i : Nat} {e : SNode} (i0 : Nat) (he : items[i]? = some e)
    (ha : e.anchor = some a) (h : items.countP (fun x => x.anchor == some a) = 1) :
    ancItems a items i0 = [(.idx (i0 + i), some e)] := by
  have hx : (e.anchor == some a) = true := beq_iff_eq.mpr ha
  induction items generalizing i0 i with
  | nil => cases he
  | cons x xs ih =>
    cases i with
    | zero =>
      cases he
      rw [List.countP_cons, if_pos hx] at h
      rw [ancItems, if_pos hx, ancItems_none a _ (Nat.succ.inj h)]; rfl
    | succ i =>
      have he : xs[i]? = some e := he
      obtain ⟨hx', h⟩ := countP_cons_one h (List.mem_of_getElem? he) hx
      rw [ancItems, if_neg hx', ih (i0 + 1) he h, Nat.add_assoc, Nat.add_comm 1 i]; rfl

theorem refIdx_unique (a : Str) {refs : List Str} {j : Nat} (j0 : Nat) (hj : refs[j]? = some a)
    (h : refs.countP (fun x => x == a) = 1) : refIdx a refs j0 = [(.mref (j0 + j), none)] := by
  induction refs generalizing j0 j with
  | nil => cases hj
  | cons n r ih =>
    cases j with
    | zero =>
      cases hj
      rw [refIdx, if_pos (beq_iff_eq.mpr rfl)]; rfl
    | succ j =>
      have hj : r[j]? = some a := hj
      obtain ⟨hn, h⟩ := countP_cons_one h (List.mem_of_getElem? hj) (beq_iff_eq.mpr rfl)
      rw [refIdx, if_neg hn, ih (j0 + 1) hj h, Nat.add_assoc, Nat.add_comm 1 j]

theorem resolve_child {live : Str → Bool} {n m : SNode} {s : Seg} {x : SRef} {segs : List Seg} {r : SAddr}
    (hc : children live n s = [(x, some m)]) (hr : resolve live m segs = [r]) :
    resolve live n (s :: segs) = [x :: r] := by
  rw [resolve, hc, List.flatMap_cons, List.flatMap_nil, List.append_nil]
  show (resolve live m segs).map _ = _
  rw [hr]
  rfl

theorem resolve_leaf {live : Str → Bool} {n : SNode} {s : Seg} {x : SRef}
    (hc : children live n s = [(x, none)]) : resolve live n [s] = [[x]] := by
  rw [resolve, hc]
  rfl

/-- **The resolver follows the segments of a walk to exactly its address**, and every step of the walk
is expressible, whenever none of the excluded classes lies on the way (`okAddr`). -/
theorem resolve_walk (live : Str → Bool) {n : SNode} {r : SAddr} {ps : List PStep} (hw : Walk n r ps) :
    okAddr live n r = true → resolve live n (ps.map PStep.seg) = [r] ∧ ∀ s ∈ ps, s.ok = true := by
  induction hw with
  | nil n => exact fun _ => ⟨rfl, fun _ h => nomatch h⟩
  | @idx a items i e r ps he _ ih =>
    intro hok
    simp only [okAddr, he, Bool.and_eq_true] at hok
    obtain ⟨h1, h2⟩ := hok
    obtain ⟨ihr, iho⟩ := ih h2
    cases ha : e.anchor with
    | none =>
      refine ⟨resolve_child ?_ ihr, List.forall_mem_cons.mpr ⟨rfl, iho⟩⟩
      have hneg : ¬ ((i : Int) < 0) := Int.not_lt.mpr (Int.natCast_nonneg i)
      simp only [itemStep, PStep.seg, children, hneg, if_false, Int.toNat_natCast, he]
    | some an =>
      rw [ha] at h1
      simp only [Bool.and_eq_true, beq_iff_eq] at h1
      refine ⟨resolve_child ?_ ihr, List.forall_mem_cons.mpr ⟨h1.1, iho⟩⟩
      exact (ancItems_unique an 0 he ha h1.2).trans (by rw [Nat.zero_add])
  | @key a own merged refs k v r ps hm _ ih =>
    intro hok
    simp only [okAddr, Bool.and_eq_true, beq_iff_eq] at hok
    obtain ⟨⟨h1, h2⟩, h3⟩ := hok
    have hflt := filter_of_countP_one h2 hm (beq_iff_eq.mpr rfl)
    cases hf : (own ++ merged).find? (fun e => e.1.key == k.key) with
    | none => rw [hf] at h3; cases h3
    | some e =>
      rw [hf] at h3
      have he : e ∈ (own ++ merged).filter (fun e => keyText e.1.key == keyText k.key) :=
        List.mem_filter.mpr ⟨List.mem_of_find?_eq_some hf, by
          rw [beq_iff_eq.mp (List.find?_some (p := fun e : AKey × SNode => e.1.key == k.key) hf)]
          exact beq_iff_eq.mpr rfl⟩
      rw [hflt] at he
      cases List.mem_singleton.mp he
      obtain ⟨ihr, iho⟩ := ih h3
      exact ⟨resolve_child ((filterMap_ite _ _ _).trans (congrArg _ hflt)) ihr, List.forall_mem_cons.mpr ⟨h1, iho⟩⟩
  | @mref a own merged refs j name hj =>
    intro hok
    simp only [okAddr, hj, Bool.and_eq_true, beq_iff_eq] at hok
    obtain ⟨⟨⟨h1, h2⟩, h3⟩, h4⟩ := hok
    refine ⟨resolve_leaf ?_, List.forall_mem_cons.mpr ⟨h1, fun _ h => nomatch h⟩⟩
    have ha : ancEntries name (own ++ merged) = [] := List.filterMap_eq_nil_iff.mpr fun e he => by
      have := List.all_eq_true.mp h4 e he
      rw [Bool.not_eq_true'] at this
      exact if_neg (by rw [this]; exact Bool.false_ne_true)
    show (if live name = true then refIdx name refs 0 else []) ++ ancEntries name (own ++ merged) = _
    rw [if_pos h2, refIdx_unique name 0 hj h3, ha, Nat.zero_add]
    rfl
  | @member a ms k hk =>
    intro hok
    simp only [okAddr, Bool.and_eq_true, beq_iff_eq] at hok
    exact ⟨resolve_leaf ((filterMap_ite _ _ _).trans (congrArg _
        (filter_of_countP_one hok.2 hk (beq_iff_eq.mpr rfl)))),
      List.forall_mem_cons.mpr ⟨hok.1, fun _ h => nomatch h⟩⟩

end Ypv.Search.Rr
