import Ypv.Spec.Anchors
/-!
# Lemmas for C10

`_calc_unique_anchor` terminates with a fresh name (`calcUnique_isSome`, `calcUnique_fresh`), injectively
(`freshInj`).  The emitter defines each name once when each name has one object (`OneObj`,
`defsFrom_nodup`).  `rename` and `replaceIn` are occurrence maps
(`mapTags`), so the conflict loop composes occurrence maps: run over a right dictionary `rs` it takes any
two documents to their images under the policies `finalL … rs`, `finalR … rs` (`resolveLoop_closed`);
after it each anchor name has one object across both documents (`resolved_oneObj`).
-/
namespace Ypv.Anchors
open Ypv

/-! ### `_calc_unique_anchor` terminates and returns a fresh name -/

theorem suffixed_length (a : Str) (aid : Nat) : a.length < (suffixed a aid).length := by
  simp [suffixed]

/-- The k-th candidate of the loop started at `a` with counter `aid`. -/
def chainR (a : Str) (aid : Nat) : Nat → Str
  | 0 => a
  | k + 1 => suffixed (chainR a aid k) (aid + k)

theorem chainR_shift (a : Str) (aid k : Nat) : chainR (suffixed a aid) (aid + 1) k = chainR a aid (k + 1) := by
  induction k with
  | zero => rfl
  | succ k ih => exact (congrArg (suffixed · _) ih).trans (congrArg (suffixed _) (Nat.add_right_comm aid 1 k))

/-- What the loop returns is a candidate of the chain and no known name (so not the start, if that is known). -/
theorem calcUniqueFuel_spec {fuel : Nat} {a : Str} {aid : Nat} {known : List Str} {f : Str}
    (h : calcUniqueFuel fuel a aid known = some f) :
    f ∉ known ∧ ∃ k, f = chainR a aid k ∧ (a ∈ known → ∃ k', k = k' + 1) := by
  induction fuel generalizing a aid with
  | zero => cases h
  | succ n ih =>
    rw [calcUniqueFuel] at h
    split at h
    · obtain ⟨hf, k, hk, _⟩ := ih h
      exact ⟨hf, k + 1, by rw [hk, chainR_shift], fun _ => ⟨k, rfl⟩⟩
    · rename_i hc
      cases h
      have hf : f ∉ known := fun hm => hc (List.contains_iff_mem.2 hm)
      exact ⟨hf, 0, rfl, fun hm => absurd hm hf⟩

/-- The loop ends within as many rounds as there are known names at least as long as the
current candidate (candidates grow strictly, so none is visited twice): `K` holds those names. -/
theorem calcUniqueFuel_isSome (fuel : Nat) (a : Str) (aid : Nat) (known K : List Str)
    (hK : ∀ k ∈ known, a.length ≤ k.length → k ∈ K) (hlen : K.length < fuel) :
    (calcUniqueFuel fuel a aid known).isSome = true := by
  induction fuel generalizing a aid K with
  | zero => exact absurd hlen (Nat.not_lt_zero _)
  | succ n ih =>
    rw [calcUniqueFuel]
    split
    · rename_i hc
      have ha : a ∈ K := hK a (List.contains_iff_mem.1 hc) (Nat.le_refl _)
      refine ih _ _ (K.erase a) (fun k hk hle => ?_) ?_
      · have hne : k ≠ a := fun e => absurd (e ▸ hle) (Nat.not_le.2 (suffixed_length a aid))
        exact (List.mem_erase_of_ne hne).2 (hK k hk (Nat.le_trans (Nat.le_of_lt (suffixed_length a aid)) hle))
      · rw [List.length_erase_of_mem ha]
        exact Nat.sub_one_lt_of_le (List.length_pos_of_mem ha) (Nat.le_of_lt_succ hlen)
    · rfl

theorem calcUnique_isSome (a : Str) (known : List Str) : (calcUnique a known).isSome = true :=
  calcUniqueFuel_isSome _ a 1 known known (fun _ hk _ => hk) (Nat.lt_succ_self _)

theorem calcUnique_fresh (a : Str) (known : List Str) (f : Str) (h : calcUnique a known = some f) :
    f ∉ known := (calcUniqueFuel_spec h).1

/-! ### The emitter defines each name once when each name has one object -/

/-- All occurrences of one anchor name are the same object with the same value. -/
def OneObj (l : List Anchored) : Prop := ∀ a ∈ l, ∀ b ∈ l, a.1.name = b.1.name → a = b

theorem mem_defsFrom {l : List Anchored} {seen : List Nat} {n : Str} (h : n ∈ defsFrom seen l) :
    ∃ a ∈ l, a.1.name = n ∧ a.1.oid ∉ seen := by
  induction l generalizing seen with
  | nil => cases h
  | cons x xs ih =>
    obtain ⟨t, v⟩ := x
    rw [defsFrom] at h
    split at h
    · obtain ⟨a, ha, h1, h2⟩ := ih h
      exact ⟨a, List.mem_cons_of_mem _ ha, h1, h2⟩
    · rename_i hns
      rcases List.mem_cons.1 h with rfl | h'
      · exact ⟨(t, v), List.mem_cons_self, rfl, fun hm => hns (List.contains_iff_mem.2 hm)⟩
      · obtain ⟨a, ha, h1, h2⟩ := ih h'
        exact ⟨a, List.mem_cons_of_mem _ ha, h1, fun hm => h2 (List.mem_cons_of_mem _ hm)⟩

theorem defsFrom_nodup {l : List Anchored} (seen : List Nat) (h : OneObj l) : (defsFrom seen l).Nodup := by
  induction l generalizing seen with
  | nil => exact List.nodup_nil
  | cons x xs ih =>
    obtain ⟨t, v⟩ := x
    have hxs : OneObj xs := fun a ha b hb hab =>
      h a (List.mem_cons_of_mem _ ha) b (List.mem_cons_of_mem _ hb) hab
    rw [defsFrom]
    split
    · exact ih seen hxs
    · refine List.nodup_cons.2 ⟨fun hmem => ?_, ih _ hxs⟩
      obtain ⟨a, ha, h1, h2⟩ := mem_defsFrom hmem
      rw [h a (List.mem_cons_of_mem _ ha) (t, v) List.mem_cons_self h1] at h2
      exact h2 List.mem_cons_self

end Ypv.Anchors

namespace Ypv.Anchors
open Ypv

/-! ### Tag maps: `rename` and `replaceIn` act occurrence by occurrence -/

/-- Apply `f` to every anchored scalar of a document. -/
def mapTags (f : Anchored → Anchored) : ANode → ANode
  | .scalar (some t) v => .scalar (some (f (t, v)).1) (f (t, v)).2
  | .scalar none v => .scalar none v
  | .seq items => .seq (mapList f items)
  | .map es => .map (mapEntries f es)
where
  mapList (f : Anchored → Anchored) : List ANode → List ANode
    | [] => []
    | n :: ns => mapTags f n :: mapList f ns
  mapEntries (f : Anchored → Anchored) : List (Key × ANode) → List (Key × ANode)
    | [] => []
    | (k, n) :: es => (k, mapTags f n) :: mapEntries f es

def renF (old new : Str) (a : Anchored) : Anchored :=
  if a.1.name = old then ({ a.1 with name := new }, a.2) else a

def replF (repl : Anchored) (a : Anchored) : Anchored :=
  if a.1.name = repl.1.name then repl else a

theorem cons_congr {α : Type} {x y : α} {xs ys : List α} (h1 : x = y) (h2 : xs = ys) : x :: xs = y :: ys :=
  h1 ▸ h2 ▸ rfl

mutual
theorem rename_eq_mapTags (o n : Str) : (d : ANode) → rename o n d = mapTags (renF o n) d
  | .scalar (some t) v =>
      (apply_ite (fun p : Anchored => ANode.scalar (some p.1) p.2) (t.name = o) ({ t with name := n }, v) (t, v)).symm
  | .scalar none v => rfl
  | .seq items => congrArg ANode.seq (renameList_eq o n items)
  | .map es => congrArg ANode.map (renameEntries_eq o n es)
theorem renameList_eq (o n : Str) : (l : List ANode) → rename.renameList o n l = mapTags.mapList (renF o n) l
  | [] => rfl
  | x :: xs => cons_congr (rename_eq_mapTags o n x) (renameList_eq o n xs)
theorem renameEntries_eq (o n : Str) : (l : List (Key × ANode)) →
    rename.renameEntries o n l = mapTags.mapEntries (renF o n) l
  | [] => rfl
  | (k, x) :: xs => cons_congr (congrArg (Prod.mk k) (rename_eq_mapTags o n x)) (renameEntries_eq o n xs)
end

mutual
theorem replaceIn_eq_mapTags (r : Anchored) : (d : ANode) → replaceIn r d = mapTags (replF r) d
  | .scalar (some t) v =>
      (apply_ite (fun p : Anchored => ANode.scalar (some p.1) p.2) (t.name = r.1.name) r (t, v)).symm
  | .scalar none v => rfl
  | .seq items => congrArg ANode.seq (replaceList_eq r items)
  | .map es => congrArg ANode.map (replaceEntries_eq r es)
theorem replaceList_eq (r : Anchored) : (l : List ANode) → replaceIn.replaceList r l = mapTags.mapList (replF r) l
  | [] => rfl
  | x :: xs => cons_congr (replaceIn_eq_mapTags r x) (replaceList_eq r xs)
theorem replaceEntries_eq (r : Anchored) : (l : List (Key × ANode)) →
    replaceIn.replaceEntries r l = mapTags.mapEntries (replF r) l
  | [] => rfl
  | (k, x) :: xs => cons_congr (congrArg (Prod.mk k) (replaceIn_eq_mapTags r x)) (replaceEntries_eq r xs)
end

mutual
theorem occs_mapTags (f : Anchored → Anchored) : (d : ANode) → occs (mapTags f d) = (occs d).map f
  | .scalar (some _) _ => rfl
  | .scalar none _ => rfl
  | .seq items => occsList_mapTags f items
  | .map es => occsEntries_mapTags f es
theorem occsList_mapTags (f : Anchored → Anchored) : (l : List ANode) →
    occs.occsList (mapTags.mapList f l) = (occs.occsList l).map f
  | [] => rfl
  | x :: xs =>
      (congr (congrArg HAppend.hAppend (occs_mapTags f x)) (occsList_mapTags f xs)).trans List.map_append.symm
theorem occsEntries_mapTags (f : Anchored → Anchored) : (l : List (Key × ANode)) →
    occs.occsEntries (mapTags.mapEntries f l) = (occs.occsEntries l).map f
  | [] => rfl
  | (_, x) :: xs =>
      (congr (congrArg HAppend.hAppend (occs_mapTags f x)) (occsEntries_mapTags f xs)).trans List.map_append.symm
end

mutual
theorem mapTags_congr (f g : Anchored → Anchored) : (d : ANode) → (∀ a ∈ occs d, f a = g a) →
    mapTags f d = mapTags g d
  | .scalar (some t) v => fun h =>
      congrArg (fun p : Anchored => ANode.scalar (some p.1) p.2) (h (t, v) List.mem_cons_self)
  | .scalar none v => fun _ => rfl
  | .seq items => fun h => congrArg ANode.seq (mapList_congr f g items h)
  | .map es => fun h => congrArg ANode.map (mapEntries_congr f g es h)
theorem mapList_congr (f g : Anchored → Anchored) : (l : List ANode) → (∀ a ∈ occs.occsList l, f a = g a) →
    mapTags.mapList f l = mapTags.mapList g l
  | [] => fun _ => rfl
  | x :: xs => fun h => cons_congr
      (mapTags_congr f g x fun a ha => h a (List.mem_append_left _ ha))
      (mapList_congr f g xs fun a ha => h a (List.mem_append_right _ ha))
theorem mapEntries_congr (f g : Anchored → Anchored) : (l : List (Key × ANode)) →
    (∀ a ∈ occs.occsEntries l, f a = g a) → mapTags.mapEntries f l = mapTags.mapEntries g l
  | [] => fun _ => rfl
  | (k, x) :: xs => fun h => cons_congr
      (congrArg (Prod.mk k) (mapTags_congr f g x fun a ha => h a (List.mem_append_left _ ha)))
      (mapEntries_congr f g xs fun a ha => h a (List.mem_append_right _ ha))
end

mutual
theorem mapTags_comp (f g : Anchored → Anchored) : (d : ANode) →
    mapTags f (mapTags g d) = mapTags (fun a => f (g a)) d
  | .scalar (some _) _ => rfl
  | .scalar none _ => rfl
  | .seq items => congrArg ANode.seq (mapList_comp f g items)
  | .map es => congrArg ANode.map (mapEntries_comp f g es)
theorem mapList_comp (f g : Anchored → Anchored) : (l : List ANode) →
    mapTags.mapList f (mapTags.mapList g l) = mapTags.mapList (fun a => f (g a)) l
  | [] => rfl
  | x :: xs => cons_congr (mapTags_comp f g x) (mapList_comp f g xs)
theorem mapEntries_comp (f g : Anchored → Anchored) : (l : List (Key × ANode)) →
    mapTags.mapEntries f (mapTags.mapEntries g l) = mapTags.mapEntries (fun a => f (g a)) l
  | [] => rfl
  | (k, x) :: xs => cons_congr (congrArg (Prod.mk k) (mapTags_comp f g x)) (mapEntries_comp f g xs)
end

mutual
theorem mapTags_id : (d : ANode) → mapTags (fun a => a) d = d
  | .scalar (some _) _ => rfl
  | .scalar none _ => rfl
  | .seq items => congrArg ANode.seq (mapList_id items)
  | .map es => congrArg ANode.map (mapEntries_id es)
theorem mapList_id : (l : List ANode) → mapTags.mapList (fun a => a) l = l
  | [] => rfl
  | x :: xs => cons_congr (mapTags_id x) (mapList_id xs)
theorem mapEntries_id : (l : List (Key × ANode)) → mapTags.mapEntries (fun a => a) l = l
  | [] => rfl
  | (k, x) :: xs => cons_congr (congrArg (Prod.mk k) (mapTags_id x)) (mapEntries_id xs)
end

theorem isContainer_mapTags (f : Anchored → Anchored) (d : ANode) : isContainer (mapTags f d) = isContainer d := by
  cases d with
  | scalar t v => cases t <;> rfl
  | seq items => rfl
  | map es => rfl

/-- `mapTags` on containers; a scalar root is not a container and stays (`replace_anchor`). -/
def mapC (f : Anchored → Anchored) (d : ANode) : ANode := if isContainer d then mapTags f d else d

theorem replaceAnchor_eq_mapC (repl : Anchored) (d : ANode) : replaceAnchor repl d = mapC (replF repl) d := by
  cases d with
  | scalar t v => rfl
  | seq items => exact replaceIn_eq_mapTags repl _
  | map es => exact replaceIn_eq_mapTags repl _

theorem mapC_comp (f g : Anchored → Anchored) (d : ANode) : mapC f (mapC g d) = mapC (fun a => f (g a)) d := by
  unfold mapC
  cases hc : isContainer d with
  | true => rw [if_pos rfl, if_pos rfl, isContainer_mapTags, hc, if_pos rfl, mapTags_comp]
  | false => rw [if_neg Bool.false_ne_true, if_neg Bool.false_ne_true, hc, if_neg Bool.false_ne_true]

theorem mapC_id (d : ANode) : mapC (fun a => a) d = d := by
  unfold mapC; rw [mapTags_id, ite_self]

/-! ### Facts about `scan` (the name → node dictionary) -/

theorem lookup_cons_name_ne {d : Dict} {n m : Str} (a : Anchored) (h : m ≠ n) :
    ((n, a) :: d).lookup m = d.lookup m := by
  rw [List.lookup_cons, beq_eq_false_iff_ne.2 h]

theorem lookup_cons_name_self {d : Dict} {n : Str} (a : Anchored) : ((n, a) :: d).lookup n = some a :=
  List.lookup_cons_self

theorem lookup_of_mem_ok {d : List (Str × Anchored)} (h : (d.map (·.1)).Nodup) {k : Str} {a : Anchored}
    (hm : (k, a) ∈ d) : d.lookup k = some a := by
  induction d with
  | nil => cases hm
  | cons e rest ih =>
    obtain ⟨k', a'⟩ := e
    have hn := List.nodup_cons.1 h
    rcases List.mem_cons.1 hm with he | hm'
    · cases he; exact lookup_cons_name_self a
    · rw [lookup_cons_name_ne a' fun e => hn.1 (List.mem_map.2 ⟨(k, a), hm', e⟩)]
      exact ih hn.2 hm'

theorem mem_of_lookup {d : List (Str × Anchored)} {k : Str} {a : Anchored} (h : d.lookup k = some a) :
    (k, a) ∈ d := by
  obtain ⟨l₁, l₂, rfl, _⟩ := List.lookup_eq_some_iff.1 h
  exact List.mem_append_right _ List.mem_cons_self

theorem lookup_isSome_of_key {d : List (Str × Anchored)} {k : Str} (h : k ∈ d.map (·.1)) :
    ∃ a, d.lookup k = some a := by
  obtain ⟨p, hp, rfl⟩ := List.mem_map.1 h
  exact Option.isSome_iff_exists.1 (List.lookup_isSome_iff.2 ⟨p, hp, beq_self_eq_true _⟩)

theorem key_mem_of_lookup {d : Dict} {k : Str} {a : Anchored} (h : d.lookup k = some a) : k ∈ d.map (·.1) :=
  List.mem_map.2 ⟨(k, a), mem_of_lookup h, rfl⟩

theorem lookup_eq_none_of_not_key {d : Dict} {k : Str} (h : k ∉ d.map (·.1)) : d.lookup k = none := by
  cases hl : d.lookup k with
  | none => rfl
  | some a => exact absurd (key_mem_of_lookup hl) h

/-- Every entry is filed under its own anchor name. -/
def Filed (d : Dict) : Prop := ∀ e ∈ d, e.2.1.name = e.1

theorem Filed.name_of_lookup {d : Dict} (h : Filed d) {k : Str} {a : Anchored} (hl : d.lookup k = some a) :
    a.1.name = k := h _ (mem_of_lookup hl)

/-- Dictionary well-formedness: entries filed under their own names, keys distinct. -/
def DictOK (d : Dict) : Prop := Filed d ∧ (d.map (·.1)).Nodup

theorem dictSet_keys (d : List (Str × Anchored)) (k : Str) (a : Anchored) :
    (dictSet d k a).map (·.1) = if k ∈ d.map (·.1) then d.map (·.1) else d.map (·.1) ++ [k] := by
  induction d with
  | nil => rfl
  | cons e rest ih =>
    rw [dictSet]
    by_cases h : e.1 = k
    · rw [if_pos h, List.map_cons, if_pos (h ▸ List.mem_cons_self)]; rfl
    · rw [if_neg h, List.map_cons, ih]
      by_cases hk : k ∈ rest.map (·.1)
      · rw [if_pos hk]; exact (if_pos (List.mem_cons_of_mem _ hk)).symm
      · rw [if_neg hk]; exact (if_neg fun hm => (List.mem_cons.1 hm).elim (fun e => h e.symm) hk).symm

theorem mem_dictSet (d : List (Str × Anchored)) (k : Str) (a : Anchored) (e : Str × Anchored)
    (h : e ∈ dictSet d k a) : e ∈ d ∨ e = (k, a) := by
  induction d with
  | nil => exact .inr (List.mem_singleton.1 h)
  | cons x rest ih =>
    rw [dictSet] at h
    split at h
    · rename_i hk
      rcases List.mem_cons.1 h with rfl | hm
      · exact .inr (by rw [hk])
      · exact .inl (List.mem_cons_of_mem _ hm)
    · rcases List.mem_cons.1 h with rfl | hm
      · exact .inl List.mem_cons_self
      · exact (ih hm).imp_left (List.mem_cons_of_mem _)

theorem dictSet_ok (d : List (Str × Anchored)) (a : Anchored) (h : DictOK d) : DictOK (dictSet d a.1.name a) := by
  refine ⟨fun e he => (mem_dictSet d _ a e he).elim (h.1 e) (fun h => by rw [h]), ?_⟩
  rw [dictSet_keys]
  split
  · exact h.2
  · rename_i hnew
    exact List.nodup_append.2 ⟨h.2, List.nodup_cons.2 ⟨List.not_mem_nil, List.nodup_nil⟩, fun x hx y hy e =>
      hnew (List.mem_singleton.1 hy ▸ e ▸ hx)⟩

theorem mem_keys_dictSet {d : Dict} {k k' : Str} (a : Anchored) (h : k' ∈ d.map (·.1) ∨ k' = k) :
    k' ∈ (dictSet d k a).map (·.1) := by
  rw [dictSet_keys]
  split
  · exact h.elim id (fun e => e ▸ ‹k ∈ _›)
  · exact List.mem_append.2 (h.imp_right List.mem_singleton.2)

/-- `scan` folds from the left; read from the right the dictionary grows by one `dictSet` per occurrence. -/
theorem foldr_dictSet (l : List Anchored) :
    DictOK (l.foldr (fun a acc => dictSet acc a.1.name a) []) ∧
    (∀ e ∈ l.foldr (fun a acc => dictSet acc a.1.name a) [], e.2 ∈ l) ∧
    ∀ a ∈ l, a.1.name ∈ (l.foldr (fun a acc => dictSet acc a.1.name a) []).map (·.1) := by
  induction l with
  | nil => exact ⟨⟨fun _ h => (nomatch h), List.nodup_nil⟩, fun _ h => (nomatch h), fun _ h => (nomatch h)⟩
  | cons x xs ih =>
    obtain ⟨h1, h2, h3⟩ := ih
    refine ⟨dictSet_ok _ x h1, fun e he => ?_, fun a ha => mem_keys_dictSet x ?_⟩
    · rcases mem_dictSet _ _ _ e he with h | h
      · exact List.mem_cons_of_mem _ (h2 e h)
      · rw [h]; exact List.mem_cons_self
    · rcases List.mem_cons.1 ha with rfl | ha
      · exact .inr rfl
      · exact .inl (h3 a ha)

theorem scan_spec (d : ANode) :
    DictOK (scan d) ∧ (∀ e ∈ scan d, e.2 ∈ occs d) ∧ ∀ a ∈ occs d, a.1.name ∈ (scan d).map (·.1) := by
  rw [scan, List.foldl_eq_foldr_reverse]
  have h := foldr_dictSet (occs d).reverse
  exact ⟨h.1, fun e he => List.mem_reverse.1 (h.2.1 e he), fun a ha => h.2.2 a (List.mem_reverse.2 ha)⟩

theorem scan_ok (d : ANode) : DictOK (scan d) := (scan_spec d).1

/-- The dictionary entry of a name is one of the document's occurrences of that name. -/
theorem scan_lookup_mem {d : ANode} {n : Str} {a : Anchored} (h : (scan d).lookup n = some a) :
    a ∈ occs d ∧ a.1.name = n :=
  ⟨(scan_spec d).2.1 _ (mem_of_lookup h), (scan_ok d).1.name_of_lookup h⟩

/-- In a document where each name has one object, the dictionary entry of an occurrence's name
is that occurrence. -/
theorem scan_lookup_eq_of_oneObj {d : ANode} (ho : OneObj (occs d)) {a : Anchored} (h : a ∈ occs d) :
    (scan d).lookup a.1.name = some a := by
  obtain ⟨b, hb⟩ := lookup_isSome_of_key ((scan_spec d).2.2 a h)
  obtain ⟨hb1, hb2⟩ := scan_lookup_mem hb
  rw [hb, ho b hb1 a h hb2]

end Ypv.Anchors

namespace Ypv.Anchors
open Ypv

/-! ### The policies `finalL`, `finalR` on one occurrence -/

section
variable (mode : Mode) (known : List Str) (ls rs : Dict) {n : Str} {a la ra : Anchored}

theorem finalL_of_lookups (h1 : ls.lookup a.1.name = some la) (h2 : rs.lookup a.1.name = some ra) :
    finalL mode ls rs a = if pyEq la.2 ra.2 then ra else if mode = .right then ra else a := by
  rw [finalL, h1, h2]

theorem finalR_of_lookups (h1 : ls.lookup a.1.name = some la) (h2 : rs.lookup a.1.name = some ra) :
    finalR mode known ls rs a =
      if pyEq la.2 ra.2 then a else
        match mode with
        | .left => la
        | .rename => match calcUnique a.1.name known with
          | some f => ({ a.1 with name := f }, a.2)
          | none => a
        | _ => a := by
  rw [finalR, h1, h2]; rfl

theorem finalL_of_not_right (h : rs.lookup a.1.name = none) : finalL mode ls rs a = a := by
  rw [finalL, h]; cases ls.lookup a.1.name <;> rfl

theorem finalR_of_not_right (h : rs.lookup a.1.name = none) : finalR mode known ls rs a = a := by
  rw [finalR, h]; cases ls.lookup a.1.name <;> rfl

theorem finalL_nil : finalL mode ls [] = fun a => a :=
  funext fun _ => finalL_of_not_right mode ls [] rfl

theorem finalR_nil : finalR mode known ls [] = fun a => a :=
  funext fun _ => finalR_of_not_right mode known ls [] rfl

theorem finalL_name (hrs : Filed rs) (a : Anchored) :
    (finalL mode ls rs a).1.name = a.1.name := by
  rw [finalL]
  split
  · rename_i la ra _ h2
    have hra : ra.1.name = a.1.name := hrs.name_of_lookup h2
    cases pyEq la.2 ra.2 with
    | true => exact hra
    | false =>
      rw [if_neg Bool.false_ne_true]
      split
      · exact hra
      · rfl
  · rfl

theorem finalR_name_cases (b : Anchored) (hls : Filed ls) :
    (finalR mode known ls rs b).1.name = b.1.name ∨
    (mode = .rename ∧ calcUnique b.1.name known = some (finalR mode known ls rs b).1.name) := by
  rw [finalR]
  split
  · rename_i la ra h1 _
    cases pyEq la.2 ra.2 with
    | true => exact .inl rfl
    | false =>
      rw [if_neg Bool.false_ne_true]
      cases mode with
      | left => exact .inl (hls.name_of_lookup h1)
      | rename =>
        cases hf : calcUnique b.1.name known with
        | none => exact .inl rfl
        | some f => exact .inr ⟨rfl, rfl⟩
      | _ => exact .inl rfl
  · exact .inl rfl

/-- A right-hand occurrence whose final name is a known one kept its name (fresh names are not known). -/
theorem finalR_name_of_known (hls : Filed ls) (h : (finalR mode known ls rs a).1.name ∈ known) :
    (finalR mode known ls rs a).1.name = a.1.name :=
  (finalR_name_cases mode known ls rs a hls).resolve_right fun ⟨_, hf⟩ => calcUnique_fresh _ _ _ hf h

/-! ### The conflict loop in closed form: the policies along `(n, ra) :: rs` -/

theorem finalL_cons_ne (ra : Anchored) (h : a.1.name ≠ n) :
    finalL mode ls ((n, ra) :: rs) a = finalL mode ls rs a := by
  rw [finalL, finalL, lookup_cons_name_ne ra h]

theorem finalR_cons_ne (ra : Anchored) (h : a.1.name ≠ n) :
    finalR mode known ls ((n, ra) :: rs) a = finalR mode known ls rs a := by
  rw [finalR, finalR, lookup_cons_name_ne ra h]

theorem finalL_cons_skip (ra : Anchored) (hla : ls.lookup n = none) :
    finalL mode ls ((n, ra) :: rs) = finalL mode ls rs := by
  funext a
  by_cases hn : a.1.name = n
  · rw [finalL, finalL, hn, hla]
  · exact finalL_cons_ne mode ls rs ra hn

theorem finalR_cons_skip (ra : Anchored) (hla : ls.lookup n = none) :
    finalR mode known ls ((n, ra) :: rs) = finalR mode known ls rs := by
  funext a
  by_cases hn : a.1.name = n
  · rw [finalR, finalR, hn, hla]
  · exact finalR_cons_ne mode known ls rs ra hn

theorem replF_of_name_ne {repl x : Anchored} (h : x.1.name ≠ repl.1.name) : replF repl x = x := if_neg h

theorem replF_of_name_eq {repl x : Anchored} (h : x.1.name = repl.1.name) : replF repl x = repl := if_pos h

theorem renF_of_name_ne {old new : Str} {x : Anchored} (h : x.1.name ≠ old) : renF old new x = x := if_neg h

theorem renF_of_name_eq {old new : Str} {x : Anchored} (h : x.1.name = old) :
    renF old new x = ({ x.1 with name := new }, x.2) := if_pos h

variable (hfresh : rs.lookup n = none) (hla : ls.lookup n = some la)
include hfresh hla

/-- The entry `(n, ra)` in front of a right dictionary without `n`, in terms of the left policy: the
occurrences pass through `replF ra` first, exactly when the values agree or the mode is `right`. -/
theorem finalL_cons (hra : ra.1.name = n) (a : Anchored) :
    finalL mode ls ((n, ra) :: rs) a =
      if pyEq la.2 ra.2 then finalL mode ls rs (replF ra a)
      else if mode = .right then finalL mode ls rs (replF ra a) else finalL mode ls rs a := by
  by_cases hn : a.1.name = n
  · subst hn
    rw [finalL_of_lookups mode ls _ hla (lookup_cons_name_self ra), replF_of_name_eq hra.symm,
      finalL_of_not_right (a := ra) mode ls rs (hra ▸ hfresh), finalL_of_not_right mode ls rs hfresh]
  · rw [finalL_cons_ne mode ls rs ra hn, replF_of_name_ne (hra ▸ hn), ite_self, ite_self]

/-- The same in terms of the right policy: under a conflict the occurrences pass through `replF la`
(`left`) or `renF n fresh` (`rename`) first; the fresh name is no key of `rs`, being unknown. -/
theorem finalR_cons (ra : Anchored) (hls : Filed ls) (hknown : ∀ k ∈ rs.map (·.1), k ∈ known) (a : Anchored) :
    finalR mode known ls ((n, ra) :: rs) a =
      if pyEq la.2 ra.2 then finalR mode known ls rs a else
        match mode with
        | .left => finalR mode known ls rs (replF la a)
        | .rename => match calcUnique n known with
          | some f => finalR mode known ls rs (renF n f a)
          | none => finalR mode known ls rs a
        | _ => finalR mode known ls rs a := by
  have hlan : la.1.name = n := hls.name_of_lookup hla
  by_cases hn : a.1.name = n
  · subst hn
    rw [finalR_of_lookups mode known ls _ hla (lookup_cons_name_self ra), finalR_of_not_right mode known ls rs hfresh]
    cases pyEq la.2 ra.2 with
    | true => rfl
    | false =>
      rw [if_neg Bool.false_ne_true, if_neg Bool.false_ne_true]
      cases mode with
      | left =>
        dsimp only
        rw [replF_of_name_eq hlan.symm, finalR_of_not_right (a := la) _ known ls rs (hlan ▸ hfresh)]
      | rename =>
        cases hf : calcUnique a.1.name known with
        | none => rfl
        | some f =>
          dsimp only
          rw [renF_of_name_eq rfl]
          exact (finalR_of_not_right (a := ({ a.1 with name := f }, a.2)) _ known ls rs
            (lookup_eq_none_of_not_key fun hk => calcUnique_fresh _ _ _ hf (hknown f hk))).symm
      | _ => rfl
  · rw [finalR_cons_ne mode known ls rs ra hn]
    cases pyEq la.2 ra.2 with
    | true => rfl
    | false =>
      rw [if_neg Bool.false_ne_true]
      cases mode with
      | left => dsimp only; rw [replF_of_name_ne (hlan ▸ hn)]
      | rename =>
        cases calcUnique n known with
        | none => rfl
        | some f => dsimp only; rw [renF_of_name_ne hn]
      | _ => rfl

/-- One round of the conflict loop, then the policies along `rs`, is the policies along `(n, ra) :: rs`. -/
theorem resolveOne_cons (hls : Filed ls) (hra : ra.1.name = n) (hknown : ∀ k ∈ rs.map (·.1), k ∈ known)
    (lr p : ANode × ANode) (h : resolveOne mode known la ra n lr = .ok p) :
    (mapC (finalL mode ls rs) p.1, mapTags (finalR mode known ls rs) p.2) =
      (mapC (finalL mode ls ((n, ra) :: rs)) lr.1, mapTags (finalR mode known ls ((n, ra) :: rs)) lr.2) := by
  have eL := finalL_cons mode ls rs hfresh hla hra
  have eR := finalR_cons mode known ls rs hfresh hla ra hls hknown
  unfold resolveOne at h
  by_cases h1 : pyEq la.2 ra.2 = true
  · rw [if_pos h1] at h
    cases h
    rw [funext fun a => (eL a).trans (if_pos h1), funext fun a => (eR a).trans (if_pos h1),
      replaceAnchor_eq_mapC, mapC_comp]
  · rw [if_neg h1] at h
    rw [funext fun a => (eL a).trans (if_neg h1), funext fun a => (eR a).trans (if_neg h1)]
    cases mode with
    | stop => cases h
    | left =>
      cases h
      simp only [reduceCtorEq, if_false]
      rw [replaceIn_eq_mapTags, mapTags_comp]
    | right =>
      cases h
      simp only [if_true]
      rw [replaceAnchor_eq_mapC, mapC_comp]
    | rename =>
      cases hf : calcUnique n known with
      | none => rw [hf] at h; cases h
      | some f =>
        rw [hf] at h
        cases h
        simp only [reduceCtorEq, if_false]
        rw [rename_eq_mapTags, mapTags_comp]

end

section
variable {mode : Mode} {known : List Str} {ls rest : Dict} {n : Str} {la ra : Anchored} {lr lr' : ANode × ANode}

theorem resolveLoop_cons_none (h : ls.lookup n = none) :
    resolveLoop mode known ls ((n, ra) :: rest) lr = resolveLoop mode known ls rest lr := by
  rw [resolveLoop, h]

theorem resolveLoop_cons_some (h : ls.lookup n = some la) :
    resolveLoop mode known ls ((n, ra) :: rest) lr =
      match resolveOne mode known la ra n lr with
      | .error e => .error e
      | .ok lr' => resolveLoop mode known ls rest lr' := by
  rw [resolveLoop, h]; rfl

theorem resolveOne_of_eq (h : pyEq la.2 ra.2 = true) :
    resolveOne mode known la ra n lr = .ok (replaceAnchor ra lr.1, lr.2) := by
  rw [resolveOne.eq_def, if_pos h]

end

/-- Whatever documents the conflict loop starts from, it ends with their images under the policies. -/
theorem resolveLoop_closed (mode : Mode) (known : List Str) (ls : Dict) (hls : Filed ls) (rs : Dict)
    (hok : DictOK rs) (hknown : ∀ k ∈ rs.map (·.1), k ∈ known) (lr p : ANode × ANode)
    (h : resolveLoop mode known ls rs lr = .ok p) :
    p = (mapC (finalL mode ls rs) lr.1, mapTags (finalR mode known ls rs) lr.2) := by
  induction rs generalizing lr with
  | nil => cases h; rw [finalL_nil, finalR_nil, mapC_id, mapTags_id]
  | cons e rest ih =>
    obtain ⟨n, ra⟩ := e
    have hnd := List.nodup_cons.1 hok.2
    have hok' : DictOK rest := ⟨fun e he => hok.1 e (List.mem_cons_of_mem _ he), hnd.2⟩
    have hknown' : ∀ k ∈ rest.map (·.1), k ∈ known := fun k hk => hknown k (List.mem_cons_of_mem _ hk)
    cases hla : ls.lookup n with
    | none =>
      rw [resolveLoop_cons_none hla] at h
      rw [finalL_cons_skip mode ls rest ra hla, finalR_cons_skip mode known ls rest ra hla]
      exact ih hok' hknown' lr h
    | some la =>
      rw [resolveLoop_cons_some hla] at h
      split at h
      · cases h
      · rename_i lr' hone
        rw [ih hok' hknown' lr' h]
        exact resolveOne_cons mode known ls rest (lookup_eq_none_of_not_key hnd.1) hla hls
          (hok.1 _ List.mem_cons_self) hknown' lr lr' hone

theorem mem_knownOf (ls rs : Dict) (k : Str) (h : k ∈ rs.map (·.1)) : k ∈ knownOf ls rs := by
  by_cases hk : k ∈ ls.map (·.1)
  · exact List.mem_append_left _ hk
  · exact List.mem_append_right _ (List.mem_filter.2 ⟨h, by rw [List.contains_eq_mem, decide_eq_false hk]; rfl⟩)

theorem hasConflict_cons_none {ls rest : Dict} {n : Str} {ra : Anchored} (h : ls.lookup n = none) :
    hasConflict ls ((n, ra) :: rest) = hasConflict ls rest := by
  rw [hasConflict, List.any_cons, h]; rfl

theorem hasConflict_cons_some {ls rest : Dict} {n : Str} {la ra : Anchored} (h : ls.lookup n = some la) :
    hasConflict ls ((n, ra) :: rest) = (!pyEq la.2 ra.2 || hasConflict ls rest) := by
  rw [hasConflict, List.any_cons, h]; rfl

theorem resolveOne_isOk {mode : Mode} (known : List Str) (la ra : Anchored) (n : Str) (lr : ANode × ANode)
    (hm : mode ≠ .stop) : ∃ p, resolveOne mode known la ra n lr = .ok p := by
  unfold resolveOne
  split
  · exact ⟨_, rfl⟩
  · cases mode with
    | stop => exact (hm rfl).elim
    | left => exact ⟨_, rfl⟩
    | right => exact ⟨_, rfl⟩
    | rename =>
      obtain ⟨f, hf⟩ := Option.isSome_iff_exists.1 (calcUnique_isSome n known)
      rw [hf]; exact ⟨_, rfl⟩

theorem resolveLoop_stop (known : List Str) (ls rest : Dict) (lr : ANode × ANode)
    (h : hasConflict ls rest = true) : resolveLoop .stop known ls rest lr = .error .merge := by
  induction rest generalizing lr with
  | nil => cases h
  | cons e rest' ih =>
    obtain ⟨n, ra⟩ := e
    cases hla : ls.lookup n with
    | none =>
      rw [hasConflict_cons_none hla] at h
      rw [resolveLoop_cons_none hla]; exact ih lr h
    | some la =>
      rw [hasConflict_cons_some hla] at h
      rw [resolveLoop_cons_some hla]
      cases heq : pyEq la.2 ra.2 with
      | true => rw [resolveOne_of_eq heq]; exact ih _ (by rw [heq] at h; exact h)
      | false => rw [resolveOne.eq_def, if_neg (heq ▸ Bool.false_ne_true)]

theorem resolveLoop_isOk (mode : Mode) (known : List Str) (ls rest : Dict) (lr : ANode × ANode)
    (h : ¬ (mode = .stop ∧ hasConflict ls rest = true)) : ∃ p, resolveLoop mode known ls rest lr = .ok p := by
  induction rest generalizing lr with
  | nil => exact ⟨lr, rfl⟩
  | cons e rest' ih =>
    obtain ⟨n, ra⟩ := e
    cases hla : ls.lookup n with
    | none =>
      rw [hasConflict_cons_none hla] at h
      rw [resolveLoop_cons_none hla]; exact ih lr h
    | some la =>
      rw [hasConflict_cons_some hla] at h
      rw [resolveLoop_cons_some hla]
      cases heq : pyEq la.2 ra.2 with
      | true => rw [resolveOne_of_eq heq]; exact ih _ (by rw [heq] at h; exact h)
      | false =>
        have hm : mode ≠ .stop := fun e => h ⟨e, by rw [heq]; rfl⟩
        obtain ⟨lr', h1⟩ := resolveOne_isOk known la ra n lr hm
        rw [h1]
        exact ih _ fun hc => hm hc.1

end Ypv.Anchors

namespace Ypv.Anchors
open Ypv

/-! ### After resolution each anchor name has one object across both documents -/

/-- Distinct names get distinct fresh names (hypothesis of `resolved_oneObj` under `rename`). -/
def FreshInj (known : List Str) : Prop :=
  ∀ n1 n2 f, n1 ∈ known → n2 ∈ known → calcUnique n1 known = some f → calcUnique n2 known = some f → n1 = n2

theorem oneObj_final {mode : Mode} {known : List Str} {ls rs : Dict} {L R : List Anchored}
    (hls : Filed ls) (hrs : Filed rs)
    (hL : ∀ a ∈ L, ls.lookup a.1.name = some a ∧ a.1.name ∈ known)
    (hR : ∀ b ∈ R, rs.lookup b.1.name = some b ∧ b.1.name ∈ known)
    (hstop : mode = .stop → ∀ n la ra, ls.lookup n = some la → rs.lookup n = some ra → pyEq la.2 ra.2 = true)
    (hinj : mode = .rename → FreshInj known) :
    OneObj (L.map (finalL mode ls rs) ++ R.map (finalR mode known ls rs)) := by
  -- an occurrence is determined by its name, on either side
  have eqL : ∀ a ∈ L, ∀ a' ∈ L, a.1.name = a'.1.name → a = a' := fun a ha a' ha' hn =>
    Option.some.inj ((hL a ha).1.symm.trans (hn ▸ (hL a' ha').1))
  have eqR : ∀ b ∈ R, ∀ b' ∈ R, b.1.name = b'.1.name → b = b' := fun b hb b' hb' hn =>
    Option.some.inj ((hR b hb).1.symm.trans (hn ▸ (hR b' hb').1))
  -- an image that bears a known name bears its original name
  have keep : ∀ b, (finalR mode known ls rs b).1.name ∈ known → (finalR mode known ls rs b).1.name = b.1.name :=
    fun _ => finalR_name_of_known mode known ls rs hls
  have RR : ∀ b ∈ R, ∀ b' ∈ R, (finalR mode known ls rs b).1.name = (finalR mode known ls rs b').1.name →
      finalR mode known ls rs b = finalR mode known ls rs b' := by
    intro b hb b' hb' hn
    rcases finalR_name_cases mode known ls rs b hls with h1 | ⟨hm, h1⟩
    · rw [eqR b hb b' hb' (h1.symm.trans (hn.trans (keep b' ((hn.symm.trans h1) ▸ (hR b hb).2))))]
    · rcases finalR_name_cases mode known ls rs b' hls with h2 | ⟨_, h2⟩
      · rw [eqR b hb b' hb' ((keep b ((hn.trans h2) ▸ (hR b' hb').2)).symm.trans (hn.trans h2))]
      · rw [eqR b hb b' hb' (hinj hm _ _ _ (hR b hb).2 (hR b' hb').2 h1 (hn ▸ h2))]
  have LR : ∀ a ∈ L, ∀ b ∈ R, (finalL mode ls rs a).1.name = (finalR mode known ls rs b).1.name →
      finalL mode ls rs a = finalR mode known ls rs b := by
    intro a ha b hb hn
    rw [finalL_name mode ls rs hrs] at hn
    have h1 := keep b (hn ▸ (hL a ha).2)
    have hab := hn.trans h1
    have hlb : ls.lookup b.1.name = some a := hab ▸ (hL a ha).1
    rw [finalL_of_lookups mode ls rs (hL a ha).1 (hab ▸ (hR b hb).1), finalR_of_lookups mode known ls rs hlb (hR b hb).1]
    rw [finalR_of_lookups mode known ls rs hlb (hR b hb).1] at h1
    by_cases heq : pyEq a.2 b.2 = true
    · rw [if_pos heq, if_pos heq]
    · rw [if_neg heq] at h1 ⊢
      rw [if_neg heq]
      cases mode with
      | stop => exact (heq (hstop rfl _ a b hlb (hR b hb).1)).elim
      | left => rfl
      | right => rfl
      | rename =>
        -- the conflicting right occurrence took a fresh name, which is not its own
        obtain ⟨f, hf⟩ := Option.isSome_iff_exists.1 (calcUnique_isSome b.1.name known)
        rw [hf] at h1
        have h1 : f = b.1.name := h1
        exact (calcUnique_fresh _ _ _ hf (h1 ▸ (hR b hb).2)).elim
  intro x hx y hy hxy
  simp only [List.mem_append, List.mem_map] at hx hy
  rcases hx with ⟨a, ha, rfl⟩ | ⟨a, ha, rfl⟩
  · rcases hy with ⟨b, hb, rfl⟩ | ⟨b, hb, rfl⟩
    · rw [finalL_name mode ls rs hrs, finalL_name mode ls rs hrs] at hxy
      rw [eqL a ha b hb hxy]
    · exact LR a ha b hb hxy
  · rcases hy with ⟨b, hb, rfl⟩ | ⟨b, hb, rfl⟩
    · exact (LR b hb a ha hxy.symm).symm
    · exact RR a ha b hb hxy

theorem resolved_oneObj (mode : Mode) (l r : ANode)
    (hl : OneObj (occs l)) (hr : OneObj (occs r))
    (hstop : mode = .stop → ∀ n la ra, (scan l).lookup n = some la → (scan r).lookup n = some ra →
      pyEq la.2 ra.2 = true)
    (hinj : mode = .rename → FreshInj (knownOf (scan l) (scan r))) :
    OneObj ((occs l).map (finalL mode (scan l) (scan r)) ++
            (occs r).map (finalR mode (knownOf (scan l) (scan r)) (scan l) (scan r))) :=
  oneObj_final (scan_ok l).1 (scan_ok r).1
    (fun _ ha => have h := scan_lookup_eq_of_oneObj hl ha; ⟨h, List.mem_append_left _ (key_mem_of_lookup h)⟩)
    (fun _ hb => have h := scan_lookup_eq_of_oneObj hr hb; ⟨h, mem_knownOf _ _ _ (key_mem_of_lookup h)⟩)
    hstop hinj

end Ypv.Anchors

namespace Ypv.Anchors
open Ypv

/-! ### Distinct known names receive distinct fresh names (`FreshInj` holds for `_calc_unique_anchor`) -/

theorem toDigits_inj {a b : Nat} (h : Nat.toDigits 10 a = Nat.toDigits 10 b) : a = b := by
  have ha := Nat.ofDigitChars_toDigits (b := 10) (n := a) (by decide) (by decide)
  have hb := Nat.ofDigitChars_toDigits (b := 10) (n := b) (by decide) (by decide)
  rw [h] at ha
  exact ha.symm.trans hb

theorem suffix_split (x y s t : List Char) (hs : '_' ∉ s) (ht : '_' ∉ t)
    (h : x ++ '_' :: s = y ++ '_' :: t) : x = y ∧ s = t := by
  induction x generalizing y with
  | nil =>
    cases y with
    | nil => exact ⟨rfl, (List.cons.inj h).2⟩
    | cons c y' => exact absurd ((List.cons.inj h).2 ▸ List.mem_append_right _ List.mem_cons_self) hs
  | cons a x' ih =>
    cases y with
    | nil => exact absurd ((List.cons.inj h).2 ▸ List.mem_append_right _ List.mem_cons_self) ht
    | cons c y' =>
      obtain ⟨h1, h2⟩ := List.cons.inj h
      obtain ⟨e1, e2⟩ := ih y' h2
      exact ⟨by rw [h1, e1], e2⟩

theorem chainR_succ_inj (a b : Str) (aid k j : Nat) (h : chainR a aid (k + 1) = chainR b aid (j + 1)) :
    chainR a aid k = chainR b aid j ∧ k = j := by
  simp only [chainR, suffixed] at h
  obtain ⟨h1, h2⟩ := suffix_split _ _ _ _ Nat.underscore_not_in_toDigits Nat.underscore_not_in_toDigits h
  exact ⟨h1, Nat.add_left_cancel (toDigits_inj h2)⟩

theorem chainR_inj (a b : Str) (aid k : Nat) (h : chainR a aid k = chainR b aid k) : a = b := by
  induction k with
  | zero => exact h
  | succ k ih => exact ih (chainR_succ_inj a b aid k k h).1

/-- `_calc_unique_anchor` never hands the same fresh name to two different known names. -/
theorem freshInj (known : List Str) : FreshInj known := by
  intro n1 n2 f h1 h2 hf1 hf2
  obtain ⟨-, k, hk, hk1⟩ := calcUniqueFuel_spec hf1
  obtain ⟨-, j, hj, hj1⟩ := calcUniqueFuel_spec hf2
  obtain ⟨k', rfl⟩ := hk1 h1
  obtain ⟨j', rfl⟩ := hj1 h2
  rw [hk] at hj
  obtain ⟨_, hkj⟩ := chainR_succ_inj n1 n2 1 k' j' hj
  subst hkj
  exact chainR_inj n1 n2 1 _ hj

end Ypv.Anchors
