import Ypv.Model.Keyword
import Ypv.Lemmas.Compare
/-!
# Lemmas for the keyword searches: the `max`/`min` scan and the `unique`/`distinct` table

The scan of `KeywordSearches.max/min` keeps a best value, the members equal to it (`hits`) and
everything else (`discards`).  Against an order `le` on the comparable values that the two
comparisons of the loop decide (`better x b = ¬ le x b`, `equals x b = le x b ∧ le b x`), total and
transitive (`ScanOrder`), every step of the scan keeps `ScanInv` (`mmScan_inv`); what the scan ends
with is read off it in `Props/C13.lean` (`scan_eq_spec`).  On values of one kind (all ints, floats,
Booleans or non-literal text) `valLe` has these properties (`KindOrder`, `sameKind_order`).

The member lists of an Array-of-Hashes and of a hash of hashes (`candsAoh`/`candsMap`) read each member
through `attrVal` and differ only in what a member that is no hash yields; their equations are stated
in that form.

`unique`/`distinct` build a table of groups of equal values (`groupsOf`).  Read in "nub" form — the first
member opens a group that takes every later member equal to it, the rest is grouped among itself — the
table yields the members by how often their value occurs, and the first member of each class.
-/
namespace Ypv

/-! ## The traversals of `max`/`min` and `has_child`, one member at a time -/

/-- The value the loops read off the member `n` under the attribute `name`: `f` of the attribute of a
hash having it, nothing for a hash lacking it, `other` for a member that is no hash. -/
def attrVal (f : Node → Except Err (Option Scalar)) (name : Str) (other : Except Err (Option Scalar)) :
    Node → Except Err (Option Scalar)
  | .map _ es => match attrOf es name with
    | some x => f x
    | none => .ok none
  | _ => other

theorem candsAoh_cons (name : Str) (a : Addr) (n : Node) (rest : List Node) (i : Nat) :
    candsAoh name a (n :: rest) i =
      match attrVal comparable name (.ok none) n, candsAoh name a rest (i + 1) with
      | .error e, _ => .error e
      | .ok _, .error e => .error e
      | .ok v, .ok cs => .ok ((a ++ [.idx i], v) :: cs) := rfl

theorem candsMap_cons (name : Str) (inData : Bool) (a : Addr) (k : Key) (n : Node) (rest : List (Key × Node)) :
    candsMap name inData a ((k, n) :: rest) =
      match attrVal comparable name (if inData then .error ypathErr else .ok none) n with
      | .error e => .error e
      | .ok v => match candsMap name inData a rest with
        | .error e => .error e
        | .ok cs => .ok ((a ++ [.key k], v) :: cs) := rfl

theorem hasChildAoh_cons (inv : Bool) (k : Str) (a : Addr) (n : Node) (rest : List Node) (i : Nat) :
    hasChildAoh inv k a (n :: rest) i =
      (match n with
       | .map _ es => hasChildMap es (a ++ [.idx i]) inv k
       | _ => []) ++ hasChildAoh inv k a rest (i + 1) := by
  cases n <;> rfl

/-! ## The best-so-far invariant -/

/-- The comparable values of a list of members. -/
def candVals (cs : List Cand) : List Scalar := cs.filterMap (·.2)

theorem candVals_append (a b : List Cand) : candVals (a ++ b) = candVals a ++ candVals b := by
  simp [candVals, List.filterMap_append]

theorem mem_candVals {c : Cand} {P : List Cand} {x : Scalar} (hc : c ∈ P) (hv : c.2 = some x) : x ∈ candVals P := by
  simp only [candVals, List.mem_filterMap]; exact ⟨c, hc, hv⟩

theorem mem_candVals_append_left {P : List Cand} (R : List Cand) {y : Scalar} (hy : y ∈ candVals P) :
    y ∈ candVals (P ++ R) := by
  rw [candVals_append]; exact List.mem_append_left _ hy

theorem mem_candVals_snoc {P : List Cand} {c : Cand} {y : Scalar} :
    y ∈ candVals (P ++ [c]) ↔ y ∈ candVals P ∨ c.2 = some y := by
  rw [candVals_append, List.mem_append]
  refine or_congr_right ⟨fun h => ?_, mem_candVals (List.mem_singleton_self c)⟩
  obtain ⟨a, ha, h⟩ := List.mem_filterMap.mp h
  cases List.mem_singleton.mp ha; exact h

/-- What the loop's two comparisons must decide for `le` to describe them. -/
structure ScanOrder (better : Method) (le : Scalar → Scalar → Bool) (vals : List Scalar) : Prop where
  total : ∀ x ∈ vals, ∀ y ∈ vals, le x y = true ∨ le y x = true
  trans : ∀ x ∈ vals, ∀ y ∈ vals, ∀ z ∈ vals, le x y = true → le y z = true → le x z = true
  better_iff : ∀ x ∈ vals, ∀ b ∈ vals, searchMatchesScalar noRx better x b = .ok (!le x b)
  equals_iff : ∀ x ∈ vals, ∀ b ∈ vals, searchMatchesScalar noRx .equals x b = .ok (le x b && le b x)

section
variable {better : Method} {le : Scalar → Scalar → Bool}

theorem ScanOrder.congr {le' : Scalar → Scalar → Bool} {vals : List Scalar}
    (ho : ScanOrder better le vals) (h : ∀ x ∈ vals, ∀ y ∈ vals, le' x y = le x y) : ScanOrder better le' vals where
  total x hx y hy := by rw [h x hx y hy, h y hy x hx]; exact ho.total x hx y hy
  trans x hx y hy z hz := by rw [h x hx y hy, h y hy z hz, h x hx z hz]; exact ho.trans x hx y hy z hz
  better_iff x hx b hb := by rw [h x hx b hb]; exact ho.better_iff x hx b hb
  equals_iff x hx b hb := by rw [h x hx b hb, h b hb x hx]; exact ho.equals_iff x hx b hb

theorem ScanOrder.mono {vals vals' : List Scalar}
    (ho : ScanOrder better le vals) (h : ∀ y ∈ vals', y ∈ vals) : ScanOrder better le vals' where
  total x hx y hy := ho.total x (h x hx) y (h y hy)
  trans x hx y hy z hz := ho.trans x (h x hx) y (h y hy) z (h z hz)
  better_iff x hx b hb := ho.better_iff x (h x hx) b (h b hb)
  equals_iff x hx b hb := ho.equals_iff x (h x hx) b (h b hb)

/-- `c` is at least as good as the best value held (nothing is while there is none). -/
def good (le : Scalar → Scalar → Bool) (best : Option Scalar) (c : Cand) : Bool :=
  match best, c.2 with
  | some b, some x => le b x
  | _, _ => false

theorem good_some {b x : Scalar} {c : Cand} (hv : c.2 = some x) : good le (some b) c = le b x := by
  unfold good; rw [hv]

theorem good_none {best : Option Scalar} {c : Cand} (hv : c.2 = none) : good le best c = false := by
  unfold good; rw [hv]; cases best <;> rfl

/-- The loop invariant after the members `P`: the best value is a greatest comparable value seen,
`hits` are the members as good as it in document order, `discards` all others. -/
structure ScanInv (le : Scalar → Scalar → Bool) (P : List Cand) (st : MM) : Prop where
  mem : ∀ b, st.best = some b → b ∈ candVals P
  max : ∀ y ∈ candVals P, ∃ b, st.best = some b ∧ le y b = true
  hits : st.hits = (P.filter (good le st.best)).map (·.1)
  discards : List.Perm st.discards ((P.filter (fun c => !good le st.best c)).map (·.1))

theorem perm_split (p : Cand → Bool) (P : List Cand) :
    List.Perm ((P.filter (fun c => !p c)).map (·.1) ++ (P.filter p).map (·.1)) (P.map (·.1)) := by
  rw [← List.map_append]
  exact (List.perm_append_comm.trans (List.filter_append_perm p P)).map _

theorem filter_snoc {α : Type} (p : α → Bool) (P : List α) (c : α) :
    (P ++ [c]).filter p = P.filter p ++ bif p c then [c] else [] := by
  rw [List.filter_append]; rfl

/-- The best value stays: the member joins `hits` if it is as good, `discards` otherwise. -/
theorem ScanInv.keep {P : List Cand} {st : MM} (hi : ScanInv le P st)
    (c : Cand) (hc : ∀ x, c.2 = some x → ∃ b, st.best = some b ∧ le x b = true) :
    (good le st.best c = true → ScanInv le (P ++ [c]) { st with hits := st.hits ++ [c.1] }) ∧
    (good le st.best c = false → ScanInv le (P ++ [c]) { st with discards := st.discards ++ [c.1] }) := by
  have hmem : ∀ b, st.best = some b → b ∈ candVals (P ++ [c]) := fun b hb =>
    mem_candVals_append_left [c] (hi.mem b hb)
  have hmax : ∀ y ∈ candVals (P ++ [c]), ∃ b, st.best = some b ∧ le y b = true := fun y hy =>
    (mem_candVals_snoc.mp hy).elim (hi.max y) (hc y)
  constructor <;> intro hg
  · refine ⟨hmem, hmax, ?_, ?_⟩
    · rw [filter_snoc, hg, List.map_append, ← hi.hits]; rfl
    · rw [filter_snoc, hg, Bool.not_true, cond_false, List.append_nil]; exact hi.discards
  · refine ⟨hmem, hmax, ?_, ?_⟩
    · rw [filter_snoc, hg, cond_false, List.append_nil]; exact hi.hits
    · rw [filter_snoc, hg, List.map_append]; exact hi.discards.append_right _

/-- A new best value `x`, strictly above every value before it: the member is the one hit,
everything before it is discarded. -/
theorem ScanInv.new {P : List Cand} {st : MM} (hi : ScanInv le P st) {c : Cand} {x : Scalar}
    (hv : c.2 = some x) (hxx : le x x = true) (hx : ∀ y ∈ candVals P, le y x = true ∧ le x y = false) :
    ScanInv le (P ++ [c]) { best := some x, hits := [c.1], discards := st.discards ++ st.hits } := by
  have hg : good le (some x) c = true := by rw [good_some hv]; exact hxx
  have hnone : ∀ c' ∈ P, good le (some x) c' = false := fun c' hc' => by
    cases hv' : c'.2 with
    | none => exact good_none hv'
    | some y => rw [good_some hv']; exact (hx y (mem_candVals hc' hv')).2
  refine ⟨fun b hb => ?_, fun y hy => ⟨x, rfl, ?_⟩, ?_, ?_⟩
  · cases hb; exact mem_candVals_snoc.mpr (.inr hv)
  · rcases mem_candVals_snoc.mp hy with hy | hy
    · exact (hx y hy).1
    · rw [hv] at hy; cases hy; exact hxx
  · rw [filter_snoc, hg, List.filter_eq_nil_iff.mpr fun c' hc' => by rw [hnone c' hc']; exact Bool.false_ne_true]
    rfl
  · rw [filter_snoc, hg, Bool.not_true, cond_false, List.append_nil,
      List.filter_eq_self.mpr fun c' hc' => by rw [hnone c' hc']; rfl]
    exact (hi.discards.append_right _).trans (hi.hits ▸ perm_split (good le st.best) P)

theorem mmStep_inv (P : List Cand) (c : Cand) (st : MM)
    (ho : ScanOrder better le (candVals (P ++ [c]))) (hi : ScanInv le P st) :
    ∃ st', mmStep better st c = .ok st' ∧ ScanInv le (P ++ [c]) st' := by
  obtain ⟨best, hits, discards⟩ := st
  cases hv : c.2 with
  | none =>
    exact ⟨_, by simp only [mmStep, hv], (hi.keep c fun x hx => by rw [hv] at hx; cases hx).2 (good_none hv)⟩
  | some x =>
    have hx : x ∈ candVals (P ++ [c]) := mem_candVals_snoc.mpr (.inr hv)
    have hxx : le x x = true := (ho.total x hx x hx).elim id id
    cases best with
    | none =>
      refine ⟨_, by simp only [mmStep, hv], hi.new hv hxx fun y hy => ?_⟩
      obtain ⟨b, hb, _⟩ := hi.max y hy
      cases hb
    | some b =>
      have hb : b ∈ candVals (P ++ [c]) := mem_candVals_append_left [c] (hi.mem b rfl)
      have hmax : ∀ y ∈ candVals P, y ∈ candVals (P ++ [c]) ∧ le y b = true := fun y hy => by
        obtain ⟨b', hb', h⟩ := hi.max y hy
        cases hb'; exact ⟨mem_candVals_append_left [c] hy, h⟩
      have hbetter := ho.better_iff x hx b hb
      have hequals := ho.equals_iff x hx b hb
      cases hxb : le x b with
      | false =>
        -- strictly better than everything before: `y ≤ b ≤ x`, and `x ≤ y` would give `x ≤ b`
        have hbx : le b x = true := (ho.total x hx b hb).resolve_left (by rw [hxb]; exact Bool.noConfusion)
        refine ⟨_, by simp only [mmStep, hv, hbetter, hxb, Bool.not_false], hi.new hv hxx fun y hy => ?_⟩
        obtain ⟨hy', hyb⟩ := hmax y hy
        refine ⟨ho.trans y hy' b hb x hx hyb hbx, Bool.eq_false_iff.mpr fun hxy => ?_⟩
        rw [ho.trans x hx y hy' b hb hxy hyb] at hxb; cases hxb
      | true =>
        have hk := hi.keep c fun y hy => by rw [hv] at hy; cases hy; exact ⟨b, rfl, hxb⟩
        cases hbx : le b x with
        | true =>
          exact ⟨_, by simp only [mmStep, hv, hbetter, hequals, hxb, hbx, Bool.not_true, Bool.and_self],
            hk.1 (by rw [good_some hv]; exact hbx)⟩
        | false =>
          exact ⟨_, by simp only [mmStep, hv, hbetter, hequals, hxb, hbx, Bool.not_true, Bool.and_false],
            hk.2 (by rw [good_some hv]; exact hbx)⟩

theorem mmScan_inv (R P : List Cand) (st : MM) (ho : ScanOrder better le (candVals (P ++ R))) (hi : ScanInv le P st) :
    ∃ st', mmScan better st R = .ok st' ∧ ScanInv le (P ++ R) st' := by
  induction R generalizing P st with
  | nil => exact ⟨st, rfl, by rw [List.append_nil]; exact hi⟩
  | cons c R ih =>
    rw [List.append_cons] at ho ⊢
    have ho1 := ho.mono fun y hy => mem_candVals_append_left R hy
    obtain ⟨st1, hs1, hi1⟩ := mmStep_inv P c st ho1 hi
    obtain ⟨st2, hs2, hi2⟩ := ih (P ++ [c]) st1 ho hi1
    exact ⟨st2, by rw [mmScan, hs1]; exact hs2, hi2⟩

end

/-! ## The order the `max`/`min` loops decide on values of one kind -/

/-- `≤` on scalars of the same kind: numeric on ints, on floats (exact decimals), `False ≤ True` on
Booleans, by code point on everything else (`str()` of the value). -/
def valLe : Scalar → Scalar → Bool
  | .int i, .int j => i ≤ j
  | .float m1 e1, .float m2 e2 => decLe m1 e1 m2 e2
  | .bool a, .bool b => !a || b
  | x, y => strLe (pyStr x) (pyStr y)

def valGe (x y : Scalar) : Bool := valLe y x

/-- A value that `typed_value` leaves as text: a string that is not a Python literal. -/
def IsText (v : Scalar) : Prop := typedOfScalar v = .text (pyStr v)

/-- All values are ints, or all floats, or all Booleans, or all non-literal text. -/
inductive SameKind (vals : List Scalar) : Prop
  | ints (h : ∀ v ∈ vals, ∃ i, v = .int i)
  | floats (h : ∀ v ∈ vals, ∃ m e, v = .float m e)
  | bools (h : ∀ v ∈ vals, ∃ b, v = .bool b)
  | texts (h : ∀ v ∈ vals, IsText v)

/-- What the two loops need of `valLe` on the values satisfying `P`. -/
structure KindOrder (P : Scalar → Prop) : Prop where
  total : ∀ x y, P x → P y → valLe x y = true ∨ valLe y x = true
  trans : ∀ x y z, P x → P y → P z → valLe x y = true → valLe y z = true → valLe x z = true
  gt : ∀ x b, P x → P b → searchMatchesScalar noRx .gt x b = .ok (!valLe x b)
  lt : ∀ x b, P x → P b → searchMatchesScalar noRx .lt x b = .ok (!valLe b x)
  eq : ∀ x b, P x → P b → searchMatchesScalar noRx .equals x b = .ok (valLe x b && valLe b x)

theorem kindOrder_int : KindOrder (fun v => ∃ i, v = .int i) where
  total := by rintro _ _ ⟨i, rfl⟩ ⟨j, rfl⟩; exact (Int.le_total i j).imp decide_eq_true decide_eq_true
  trans := by
    rintro _ _ _ ⟨i, rfl⟩ ⟨j, rfl⟩ ⟨k, rfl⟩ h1 h2
    exact decide_eq_true (Int.le_trans (of_decide_eq_true h1) (of_decide_eq_true h2))
  gt := by
    rintro _ _ ⟨i, rfl⟩ ⟨j, rfl⟩
    show Except.ok (decCmp i 0 j 0 == .gt) = .ok (!decide (i ≤ j))
    rw [decCmp_gt_eq, decLe_int]
  lt := by
    rintro _ _ ⟨i, rfl⟩ ⟨j, rfl⟩
    show Except.ok (decCmp i 0 j 0 == .lt) = .ok (!decide (j ≤ i))
    rw [decCmp_lt_eq, decLe_int]
  eq := by
    rintro _ _ ⟨i, rfl⟩ ⟨j, rfl⟩
    show Except.ok (i == j) = .ok (decide (i ≤ j) && decide (j ≤ i))
    rw [Bool.beq_eq_decide_eq, ← Bool.decide_and, decide_eq_decide.mpr Int.le_antisymm_iff]

theorem kindOrder_float : KindOrder (fun v => ∃ m e, v = .float m e) where
  total := by rintro _ _ ⟨m1, e1, rfl⟩ ⟨m2, e2, rfl⟩; exact decLe_total m1 e1 m2 e2
  trans := by rintro _ _ _ ⟨m1, e1, rfl⟩ ⟨m2, e2, rfl⟩ ⟨m3, e3, rfl⟩; exact decLe_trans m1 e1 m2 e2 m3 e3
  gt := by rintro _ _ ⟨m1, e1, rfl⟩ ⟨m2, e2, rfl⟩; exact congrArg Except.ok (decCmp_gt_eq m1 e1 m2 e2)
  lt := by rintro _ _ ⟨m1, e1, rfl⟩ ⟨m2, e2, rfl⟩; exact congrArg Except.ok (decCmp_lt_eq m1 e1 m2 e2)
  eq := by rintro _ _ ⟨m1, e1, rfl⟩ ⟨m2, e2, rfl⟩; exact congrArg Except.ok (decCmp_eq_eq m1 e1 m2 e2)

/-- `False ≤ True` is the order of the numbers `0`, `1` the ladders read Booleans as. -/
theorem valLe_bool (a b : Bool) :
    valLe (.bool a) (.bool b) = decLe (if a then 1 else 0) 0 (if b then 1 else 0) 0 := by
  rw [decLe_int]; cases a <;> cases b <;> rfl

theorem kindOrder_bool : KindOrder (fun v => ∃ b, v = .bool b) where
  total := by rintro _ _ ⟨a, rfl⟩ ⟨b, rfl⟩; rw [valLe_bool, valLe_bool]; exact decLe_total ..
  trans := by rintro _ _ _ ⟨a, rfl⟩ ⟨b, rfl⟩ ⟨c, rfl⟩; rw [valLe_bool, valLe_bool, valLe_bool]; exact decLe_trans _ _ _ _ _ _
  gt := by
    rintro _ _ ⟨a, rfl⟩ ⟨b, rfl⟩
    show Except.ok (decCmp (if a then 1 else 0) 0 (if b then 1 else 0) 0 == .gt) = _
    rw [decCmp_gt_eq, valLe_bool]
  lt := by
    rintro _ _ ⟨a, rfl⟩ ⟨b, rfl⟩
    show Except.ok (decCmp (if a then 1 else 0) 0 (if b then 1 else 0) 0 == .lt) = _
    rw [decCmp_lt_eq, valLe_bool]
  eq := by rintro _ _ ⟨a, rfl⟩ ⟨b, rfl⟩; cases a <;> cases b <;> rfl

theorem valLe_text {x y : Scalar} (hx : IsText x) : valLe x y = strLe (pyStr x) (pyStr y) := by
  cases x with
  | int _ => cases hx
  | float _ _ => cases hx
  | bool _ => cases hx
  | _ => rfl

theorem searchTyped_text (m : Method) {x b : Scalar} (hx : IsText x) (hb : IsText b) :
    searchMatchesScalar noRx m x b = searchTyped noRx m (.text (pyStr x)) (.text (pyStr b)) (pyStr x) (pyStr b) := by
  rw [searchMatchesScalar, hx, hb]

theorem kindOrder_text : KindOrder IsText where
  total x y hx hy := by rw [valLe_text hx, valLe_text hy]; exact strLe_total _ _
  trans x y z hx hy _ := by rw [valLe_text hx, valLe_text hy, valLe_text hx]; exact strLe_trans _ _ _
  gt x b hx hb := by rw [searchTyped_text .gt hx hb, valLe_text hx, strLe, Bool.not_not]; rfl
  lt x b hx hb := by rw [searchTyped_text .lt hx hb, valLe_text hb, strLe, Bool.not_not]; rfl
  eq x b hx hb := by rw [searchTyped_text .equals hx hb, valLe_text hx, valLe_text hb, ← strLe_antisymm_iff]; rfl

theorem sameKind_order {vals : List Scalar} (h : SameKind vals) :
    ∃ P : Scalar → Prop, KindOrder P ∧ ∀ v ∈ vals, P v := by
  cases h with
  | ints h => exact ⟨_, kindOrder_int, h⟩
  | floats h => exact ⟨_, kindOrder_float, h⟩
  | bools h => exact ⟨_, kindOrder_bool, h⟩
  | texts h => exact ⟨_, kindOrder_text, h⟩

/-! ## Python `==` on scalars (`pyEq`) is an equivalence relation -/

theorem pyEq_refl (a : Scalar) : pyEq a a = true := by
  unfold pyEq
  cases pyEq.typedKey a with
  | none => exact beq_self_eq_true a
  | some p => exact beq_iff_eq.mpr (decCmp_refl p.1 p.2)

theorem pyEq_symm (a b : Scalar) : pyEq a b = pyEq b a := by
  unfold pyEq
  cases pyEq.typedKey a with
  | none =>
    cases pyEq.typedKey b with
    | none => exact BEq.comm
    | some q => rfl
  | some p =>
    cases pyEq.typedKey b with
    | none => rfl
    | some q =>
      show (decCmp p.1 p.2 q.1 q.2 == .eq) = (decCmp q.1 q.2 p.1 p.2 == .eq)
      rw [decCmp_swap p.1 p.2 q.1 q.2]; cases decCmp p.1 p.2 q.1 q.2 <;> rfl

theorem pyEq_trans (a b c : Scalar) (h1 : pyEq a b = true) (h2 : pyEq b c = true) : pyEq a c = true := by
  unfold pyEq at *
  generalize pyEq.typedKey a = ka at *
  generalize pyEq.typedKey b = kb at *
  generalize pyEq.typedKey c = kc at *
  cases ka with
  | none =>
    cases kb with
    | none => rw [beq_iff_eq.mp h1]; exact h2
    | some q => cases h1
  | some p =>
    cases kb with
    | none => cases h1
    | some q =>
      cases kc with
      | none => cases h2
      | some r => exact beq_iff_eq.mpr (decCmp_eq_trans _ _ _ _ _ _ (beq_iff_eq.mp h1) (beq_iff_eq.mp h2))

theorem pyEq_congr_left {a b : Scalar} (h : pyEq a b = true) (c : Scalar) : pyEq a c = pyEq b c := by
  rw [Bool.eq_iff_iff]
  constructor
  · intro h'; exact pyEq_trans b a c (by rw [pyEq_symm]; exact h) h'
  · intro h'; exact pyEq_trans a b c h h'

/-! ## `unique` / `distinct`: the groups built by `groupInsert` -/

/-- A member that takes part in `unique`/`distinct`: its address and its value. -/
abbrev Keyed := Addr × Scalar

/-- The `seen_values` table after the members `ms`, starting from `g`. -/
def groupsOf (g : Groups) (ms : List Keyed) : Groups := ms.foldl (fun g m => groupInsert g m.2 m.1) g

theorem groupsOf_nil (g : Groups) : groupsOf g [] = g := rfl

theorem groupsOf_cons (g : Groups) (m : Keyed) (ms : List Keyed) :
    groupsOf g (m :: ms) = groupsOf (groupInsert g m.2 m.1) ms := rfl

theorem groupInsert_cons (k : Scalar) (as : List Addr) (g : Groups) (v : Scalar) (a : Addr) :
    groupInsert ((k, as) :: g) v a = if pyEq k v then (k, as ++ [a]) :: g else (k, as) :: groupInsert g v a := rfl

/-- The first group collects every later member equal to its key; the others never see them. -/
theorem groupsOf_cons_group (k : Scalar) (ms : List Keyed) (as : List Addr) (g : Groups) :
    groupsOf ((k, as) :: g) ms =
      (k, as ++ (ms.filter (fun m => pyEq k m.2)).map (·.1)) :: groupsOf g (ms.filter (fun m => !pyEq k m.2)) := by
  induction ms generalizing as g with
  | nil => show (k, as) :: g = (k, as ++ []) :: g; rw [List.append_nil]
  | cons m ms ih =>
    rw [groupsOf_cons, groupInsert_cons, List.filter_cons, List.filter_cons]
    cases pyEq k m.2 with
    | false => exact ih as (groupInsert g m.2 m.1)
    | true =>
      rw [if_pos rfl, if_pos rfl, Bool.not_true, if_neg Bool.false_ne_true,
        ih (as ++ [m.1]) g, List.map_cons, List.append_assoc]
      rfl

/-- "Nub" form of the table: the first member opens the first group, which takes all members equal
to it; the remaining groups are those of the remaining members. -/
theorem groupsOf_nil_cons (m : Keyed) (ms : List Keyed) :
    groupsOf [] (m :: ms) =
      (m.2, m.1 :: (ms.filter (fun x => pyEq m.2 x.2)).map (·.1)) :: groupsOf [] (ms.filter (fun x => !pyEq m.2 x.2)) :=
  groupsOf_cons_group m.2 ms [m.1] []

/-- How often (under Python `==`) the value `v` occurs among the members. -/
def occurrences (ms : List Keyed) (v : Scalar) : Nat := (ms.filter (fun m => pyEq v m.2)).length

theorem occ_of_eq {v w : Scalar} (h : pyEq v w = true) (ms : List Keyed) : occurrences ms w = occurrences ms v :=
  congrArg List.length (List.filter_congr fun x _ => (pyEq_congr_left h x.2).symm)

/-- Occurrences after the first member `m`: its own class counts `m` and the later members equal to
it; any other value occurs as often as among the members outside that class. -/
theorem occ_cons (m : Keyed) (rest : List Keyed) (v : Scalar) :
    occurrences (m :: rest) v =
      if pyEq m.2 v then 1 + (rest.filter fun x => pyEq m.2 x.2).length
      else occurrences (rest.filter fun x => !pyEq m.2 x.2) v := by
  split
  · rename_i h
    rw [occ_of_eq h, occurrences, List.filter_cons, pyEq_refl, if_pos rfl, List.length_cons, Nat.add_comm]
  · rename_i h
    rw [occurrences, occurrences, List.filter_cons, pyEq_symm, if_neg h, List.filter_filter]
    refine congrArg List.length (List.filter_congr fun x _ => ?_)
    -- a member equal to `v` is not equal to `m`
    cases hx : pyEq v x.2 with
    | false => rfl
    | true =>
      cases hmx : pyEq m.2 x.2 with
      | false => rfl
      | true => exact absurd (pyEq_trans m.2 x.2 v hmx (by rw [pyEq_symm]; exact hx)) h

/-- The members of the groups whose size satisfies `p`, group by group. -/
def groupSel (p : Nat → Bool) (g : Groups) : List Addr := (g.filter (fun grp => p grp.2.length)).flatMap (·.2)

theorem groupSel_cons (p : Nat → Bool) (k : Scalar) (as : List Addr) (g : Groups) :
    groupSel p ((k, as) :: g) = (if p as.length then as else []) ++ groupSel p g := by
  unfold groupSel
  cases h : p as.length <;> simp [h]

theorem groupSel_nil_cons (p : Nat → Bool) (m : Keyed) (rest : List Keyed) :
    groupSel p (groupsOf [] (m :: rest)) =
      (if p (1 + (rest.filter fun x => pyEq m.2 x.2).length)
        then m.1 :: (rest.filter fun x => pyEq m.2 x.2).map (·.1) else []) ++
      groupSel p (groupsOf [] (rest.filter fun x => !pyEq m.2 x.2)) := by
  rw [groupsOf_nil_cons, groupSel_cons, List.length_cons, List.length_map, Nat.add_comm]

theorem filter_split {α : Type} (a q : α → Bool) (l : List α) :
    List.Perm (l.filter q) ((l.filter a).filter q ++ (l.filter fun x => !a x).filter q) := by
  refine (List.filter_append_perm a (l.filter q)).symm.trans (.of_eq ?_)
  simp only [List.filter_filter, Bool.and_comm]

/-- **unique, inverted or not** — the members of the groups of a size satisfying `p` are, up to
order, the members whose value occurs a number of times satisfying `p`. -/
theorem groupSel_perm (p : Nat → Bool) (ms : List Keyed) :
    List.Perm (groupSel p (groupsOf [] ms)) ((ms.filter (fun m => p (occurrences ms m.2))).map (·.1)) := by
  generalize hn : ms.length = n
  induction n using Nat.strongRecOn generalizing ms with | ind n ih
  subst hn
  cases ms with
  | nil => exact .refl _
  | cons m rest =>
    replace ih := ih _ (Nat.lt_succ_of_le (List.length_filter_le ..)) (rest.filter fun x => !pyEq m.2 x.2) rfl
    -- among the later members the class of `m` is selected as a whole or not at all
    have hE : (rest.filter fun x => pyEq m.2 x.2).filter (fun y => p (occurrences (m :: rest) y.2)) =
        if p (1 + (rest.filter fun x => pyEq m.2 x.2).length) then rest.filter fun x => pyEq m.2 x.2 else [] := by
      rw [List.filter_congr (q := fun _ => p (1 + (rest.filter fun x => pyEq m.2 x.2).length)) fun y hy => by
        rw [occ_cons, if_pos (List.mem_filter.mp hy).2]]
      cases p _ <;> simp
    have hR := List.filter_congr (l := rest.filter fun x => !pyEq m.2 x.2)
      (p := fun y => p (occurrences (m :: rest) y.2))
      (q := fun y => p (occurrences (rest.filter fun x => !pyEq m.2 x.2) y.2)) fun y hy => by
        rw [occ_cons, if_neg (by simpa using (List.mem_filter.mp hy).2)]
    have hF := filter_split (fun x => pyEq m.2 x.2) (fun y => p (occurrences (m :: rest) y.2)) rest
    rw [hE, hR] at hF
    rw [groupSel_nil_cons, List.filter_cons, occ_cons, pyEq_refl, if_pos rfl]
    split
    · rename_i h
      rw [if_pos h] at hF
      rw [List.map_cons, List.cons_append]
      exact .cons _ (((List.Perm.append_left _ ih).trans (by rw [← List.map_append])).trans (hF.map _).symm)
    · rename_i h
      rw [if_neg h] at hF
      exact ih.trans (hF.map _).symm

/-- **unique** — the members of the singleton groups are exactly the members whose value occurs
once, in document order. -/
theorem groupSel_once (ms : List Keyed) :
    groupSel (fun k => k == 1) (groupsOf [] ms) = (ms.filter (fun m => occurrences ms m.2 == 1)).map (·.1) := by
  generalize hn : ms.length = n
  induction n using Nat.strongRecOn generalizing ms with | ind n ih
  subst hn
  cases ms with
  | nil => rfl
  | cons m rest =>
    replace ih := ih _ (Nat.lt_succ_of_le (List.length_filter_le ..)) (rest.filter fun x => !pyEq m.2 x.2) rfl
    -- a later member equal to `m` makes its class larger than one, so none of the class is selected
    have hF : rest.filter (fun y => occurrences (m :: rest) y.2 == 1) =
        (rest.filter fun x => !pyEq m.2 x.2).filter
          fun y => occurrences (rest.filter fun x => !pyEq m.2 x.2) y.2 == 1 := by
      rw [List.filter_filter]
      refine List.filter_congr fun y hy => ?_
      rw [occ_cons]
      cases hmy : pyEq m.2 y.2 with
      | false => rw [if_neg Bool.false_ne_true, Bool.not_false, Bool.and_true]
      | true =>
        have := List.length_pos_of_mem (List.mem_filter (p := fun x => pyEq m.2 x.2).mpr ⟨hy, hmy⟩)
        rw [if_pos rfl, Bool.not_true, Bool.and_false, beq_eq_false_iff_ne]; omega
    rw [groupSel_nil_cons, List.filter_cons, occ_cons, pyEq_refl, if_pos rfl, hF, ih]
    split
    · rename_i h
      rw [List.eq_nil_of_length_eq_zero (Nat.add_left_cancel (beq_iff_eq.mp h) : _ = 0)]; rfl
    · rfl

/-- The members none of whose predecessors (nor any of the values `pre`) has an equal value. -/
def firstsFrom (pre : List Scalar) : List Keyed → List Addr
  | [] => []
  | m :: rest =>
    if pre.any (fun v => pyEq v m.2) then firstsFrom (pre ++ [m.2]) rest
    else m.1 :: firstsFrom (pre ++ [m.2]) rest

/-- **distinct** — the heads of the groups are the members without an equal predecessor, in
document order. -/
theorem group_heads (ms : List Keyed) (pre : List Scalar) :
    (groupsOf [] (ms.filter (fun m => !pre.any (fun v => pyEq v m.2)))).filterMap (fun grp => grp.2.head?)
      = firstsFrom pre ms := by
  induction ms generalizing pre with
  | nil => rfl
  | cons m rest ih =>
    -- later members: "no equal value in `pre`, and not equal to `m`" is "no equal value in `pre ++ [m.2]`"
    have e : ∀ x : Keyed, (!(pre ++ [m.2]).any fun v => pyEq v x.2) = (!pyEq m.2 x.2 && !pre.any fun v => pyEq v x.2) := by
      intro x
      rw [List.any_append, List.any_cons, List.any_nil, Bool.or_false, Bool.not_or, Bool.and_comm]
    rw [firstsFrom, ← ih (pre ++ [m.2]), List.filter_cons]
    simp only [e]
    cases hm : pre.any (fun v => pyEq v m.2) with
    | false =>
      rw [Bool.not_false, if_pos rfl, if_neg Bool.false_ne_true, groupsOf_nil_cons, List.filterMap_cons]
      simp only [List.head?_cons, List.filter_filter]
    | true =>
      rw [Bool.not_true, if_neg Bool.false_ne_true, if_pos rfl]
      -- `m` has an equal value `v` in `pre`, so a member equal to `m` is equal to `v`
      obtain ⟨v, hv, hvm⟩ := List.any_eq_true.mp hm
      refine congrArg (fun l => (groupsOf [] l).filterMap _) (List.filter_congr fun x _ => ?_)
      cases hx : pyEq m.2 x.2 with
      | false => rfl
      | true => rw [List.any_eq_true.mpr ⟨v, hv, pyEq_trans v m.2 x.2 hvm hx⟩]; rfl

theorem group_heads_nil (ms : List Keyed) :
    (groupsOf [] ms).filterMap (fun grp => grp.2.head?) = firstsFrom [] ms := by
  have := group_heads ms []
  have e : ms.filter (fun m => !([] : List Scalar).any fun v => pyEq v m.2) = ms := by simp
  rw [e] at this; exact this

/-! ## The members `unique`/`distinct` see, by the shape of the collection -/

/-- The scalar value of the attribute `name` of a member, if the member is a hash having it. -/
def attrScalar (name : Str) (n : Node) : Option Scalar :=
  match n with
  | .map _ es => (attrOf es name).bind Node.scalar?
  | _ => none

/-- Members of a plain list: every position with its (scalar) value. -/
def keyedList (a : Addr) (items : List Node) (i : Nat) : List Keyed :=
  (items.zipIdx i).filterMap (fun (n, j) => n.scalar?.map (fun v => (a ++ [.idx j], v)))

/-- Members of an Array-of-Hashes: the positions of the hashes having the attribute. -/
def keyedAoh (name : Str) (a : Addr) (items : List Node) (i : Nat) : List Keyed :=
  (items.zipIdx i).filterMap (fun (n, j) => (attrScalar name n).map (fun v => (a ++ [.idx j], v)))

/-- Members of a hash of hashes: the keys of the child hashes having the attribute. -/
def keyedMap (name : Str) (a : Addr) (es : List (Key × Node)) : List Keyed :=
  es.filterMap (fun (k, n) => (attrScalar name n).map (fun v => (a ++ [.key k], v)))

theorem groupKey_ok {n : Node} {v : Scalar} (h : groupKey n = .ok v) : n.scalar? = some v := by
  cases n with
  | scalar _ w => cases h; rfl
  | _ => cases h

theorem groupList_eq (a : Addr) (items : List Node) (i : Nat) (g g' : Groups)
    (h : groupList a g items i = .ok g') : g' = groupsOf g (keyedList a items i) := by
  induction items generalizing i g with
  | nil => cases h; rfl
  | cons n rest ih =>
    cases n with
    | scalar _ v => exact ih (i + 1) _ h
    | _ => cases h

theorem groupAoh_eq (name : Str) (a : Addr) (items : List Node) (i : Nat) (g g' : Groups) :
    groupAoh name a g items i = .ok g' → g' = groupsOf g (keyedAoh name a items i) := by
  induction items generalizing i g with
  | nil => exact fun h => by cases h; rfl
  | cons n rest ih =>
    simp only [keyedAoh, List.zipIdx_cons, List.filterMap_cons]
    cases n with
    | map _ es =>
      rw [groupAoh, attrScalar]
      cases attrOf es name with
      | none => exact ih (i + 1) g
      | some x =>
        cases x with
        | scalar _ v => exact ih (i + 1) _
        | _ => exact fun h => nomatch h
    | _ => exact ih (i + 1) g

theorem groupMap_eq (name : Str) (inData : Bool) (a : Addr) (es : List (Key × Node)) (g g' : Groups) :
    groupMap name inData a g es = .ok g' → g' = groupsOf g (keyedMap name a es) := by
  induction es generalizing g with
  | nil => exact fun h => by cases h; rfl
  | cons kn rest ih =>
    obtain ⟨k, n⟩ := kn
    simp only [keyedMap, List.filterMap_cons]
    cases n with
    | map _ es =>
      rw [groupMap, attrScalar]
      cases attrOf es name with
      | none => exact ih g
      | some x =>
        cases x with
        | scalar _ v => exact ih _
        | _ => exact fun h => nomatch h
    | _ =>
      cases inData with
      | true => exact fun h => nomatch h
      | false => exact ih g

/-- A plain list of scalars is always grouped (no unhashable member). -/
theorem groupList_scalars (a : Addr) (items : List Node) (i : Nat) (g : Groups)
    (h : ∀ n ∈ items, n.isScalar = true) : groupList a g items i = .ok (groupsOf g (keyedList a items i)) := by
  induction items generalizing i g with
  | nil => rfl
  | cons n rest ih =>
    cases n with
    | scalar anc v => exact ih (i + 1) _ fun n hn => h n (List.mem_cons_of_mem _ hn)
    | _ => cases h _ List.mem_cons_self

end Ypv
