import Ypv.Lemmas.Eval
/-!
# The matcher of the comparison model and the keyword handler never crash — except C15-K1
(helpers of `Props/C15`; imported by `Lemmas/EvalKwLoc.lean`, `Lemmas/Collector.lean`)
-/
namespace Ypv
namespace W1
open Ypv.Eval Gen

theorem safeE_ok {α : Type} (x : α) : SafeE (.ok x : Except Err α) := fun _ h => nomatch h
theorem safeE_err {α : Type} {e : Err} (h : e.isCrash = false) : SafeE (.error e : Except Err α) := by
  intro e' h'; cases h'; exact h

/-! ## `search_matches` -/

/-- The body of `Searches.search_matches` never ends in a crash outcome, whatever the two typed
values are (text term: `searchMatches`; scalar needle, as `max`/`min` call it: `searchMatchesScalar`). -/
theorem safe_searchTyped (rx : Str → Str → Option Bool) (m : Method) (th tn : Typed) (hay needle : Str) :
    SafeE (searchTyped rx m th tn hay needle) := by
  unfold searchTyped
  split
  · exact safeE_err rfl
  · cases m
    case regex => cases rx needle hay <;> first | exact safeE_err rfl | exact safeE_ok _
    case equals => simp only []; split <;> exact safeE_ok _
    all_goals exact safeE_ok _

theorem mtSafe_mtCompare (rx : Str → Str → Option Bool) {orc : Matcher} (horc : MtSafe orc) :
    MtSafe (mtCompare rx orc) := by
  intro m n t e h
  unfold mtCompare at h
  split at h
  · rename_i a v
    split at h
    · exact horc _ _ _ _ h
    · exact safe_searchTyped rx m _ _ _ _ e h
  · exact horc _ _ _ _ h

theorem mtSafe_noOracle : MtSafe noOracle := by
  intro m n t e h
  cases h
  rfl

/-! ## `max` / `min`, `has_child`, `name`, `parent` -/

theorem safe_mmStep (better : Method) (st : MM) (c : Cand) : SafeE (mmStep better st c) := by
  unfold mmStep
  cases c.2 with
  | none => exact safeE_ok _
  | some x =>
    cases st.best with
    | none => exact safeE_ok _
    | some b =>
      simp only []
      cases h1 : searchMatchesScalar noRx better x b with
      | error e => exact safeE_err (safe_searchTyped _ _ _ _ _ _ e h1)
      | ok b1 =>
        cases b1 with
        | true => exact safeE_ok _
        | false =>
          simp only []
          cases h2 : searchMatchesScalar noRx .equals x b with
          | error e => exact safeE_err (safe_searchTyped _ _ _ _ _ _ e h2)
          | ok b2 => cases b2 <;> exact safeE_ok _

theorem safe_mmScan (better : Method) : ∀ (cs : List Cand) (st : MM), SafeE (mmScan better st cs) := by
  intro cs
  induction cs with
  | nil => exact fun _ => safeE_ok _
  | cons c cs ih =>
    intro st
    unfold mmScan
    cases h : mmStep better st c with
    | error e => exact safeE_err (safe_mmStep better st c e h)
    | ok st' => exact ih st'

theorem safe_comparable (n : Node) : SafeE (comparable n) := by
  cases n with
  | scalar a v => cases v <;> exact safeE_ok _
  | _ => exact safeE_err rfl

/-- The comparable value of the attribute `name` of a member (a dict lacking it: none; no dict: `dflt`). -/
theorem safe_attrVal (name : Str) (n : Node) (dflt : Except Err (Option Scalar)) (hd : SafeE dflt) :
    SafeE (match n with
      | .map _ es => match attrOf es name with
        | some x => comparable x
        | none => .ok none
      | _ => dflt) := by
  cases n with
  | map an es =>
    simp only []
    cases attrOf es name with
    | some x => exact safe_comparable x
    | none => exact safeE_ok _
  | _ => exact hd

theorem safe_candsAoh (name : Str) (a : Addr) : ∀ (items : List Node) (i : Nat), SafeE (candsAoh name a items i) := by
  intro items
  induction items with
  | nil => exact fun _ => safeE_ok _
  | cons n rest ih =>
    intro i e h
    unfold candsAoh at h
    simp only [] at h
    split at h
    · cases h; exact safe_attrVal name n _ (safeE_ok _) e ‹_›
    · cases h; exact ih (i + 1) e ‹_›
    · cases h

theorem safe_candsMap (name : Str) (inData : Bool) (a : Addr) :
    ∀ (es : List (Key × Node)), SafeE (candsMap name inData a es) := by
  intro es
  induction es with
  | nil => exact safeE_ok _
  | cons kv rest ih =>
    obtain ⟨k, n⟩ := kv
    intro e h
    unfold candsMap at h
    simp only [] at h
    split at h
    · cases h
      refine safe_attrVal name n _ ?_ e ‹_›
      cases inData
      · exact safeE_ok _
      · exact safeE_err rfl
    · split at h
      · cases h; exact ih e ‹_›
      · cases h

theorem safe_candsList (a : Addr) : ∀ (items : List Node) (i : Nat), SafeE (candsList a items i) := by
  intro items
  induction items with
  | nil => exact fun _ => safeE_ok _
  | cons n rest ih =>
    intro i
    unfold candsList
    cases h : comparable n with
    | error e => exact safeE_err (safe_comparable n e h)
    | ok v =>
      simp only []
      cases h' : candsList a rest (i + 1) with
      | error e => exact safeE_err (ih (i + 1) e h')
      | ok cs => exact safeE_ok _

theorem safe_map {α β : Type} (f : α → β) {r : Except Err α} (h : SafeE r) : SafeE (r.map f) := by
  cases r with
  | ok x => exact safeE_ok _
  | error e => exact safeE_err (h e rfl)

theorem safe_mmCands (data : Node) (a : Addr) (scan : Option Str) : SafeE (mmCands data a scan) := by
  unfold mmCands
  cases data with
  | scalar an v => exact safeE_ok _
  | set an ms => exact safeE_err rfl
  | seq an items =>
    simp only []
    split
    · cases scan with
      | none => exact safeE_err rfl
      | some name => exact safe_map _ (safe_candsAoh name a items 0)
    · cases scan with
      | some name => exact safeE_err rfl
      | none => exact safe_map _ (safe_candsList a items 0)
  | map an es =>
    cases scan with
    | none => exact safeE_err rfl
    | some name => exact safe_map _ (safe_candsMap name _ a es)

theorem safe_kwMinMax (better : Method) (data : Node) (a : Addr) (inv : Bool) (ps : List Str) :
    SafeE (kwMinMax better data a inv ps) := by
  unfold kwMinMax
  by_cases h1 : ps.length > 1
  · rw [if_pos h1]; exact safeE_err rfl
  rw [if_neg h1]
  cases h : mmCands data a ps.head? with
  | error e => exact safeE_err (safe_mmCands _ _ _ e h)
  | ok o =>
    cases o with
    | none => exact safeE_ok _
    | some cs =>
      simp only []
      cases h' : mmScan better { best := none, hits := [], discards := [] } cs with
      | error e => exact safeE_err (safe_mmScan _ _ _ e h')
      | ok st => exact safeE_ok _

theorem safe_hasChild (data : Node) (a : Addr) (inv : Bool) (ps : List Str) : SafeE (hasChild data a inv ps) := by
  unfold hasChild
  split
  · split
    · exact safeE_err rfl
    · exact safeE_err rfl
    · refine safe_map _ ?_
      unfold hasConcreteChild
      cases data with
      | scalar an v => cases v <;> first | exact safeE_ok _ | exact safeE_err rfl
      | seq an items => simp only []; split <;> exact safeE_ok _
      | map an es => exact safeE_ok _
      | set an ms => exact safeE_err rfl
  · exact safeE_err rfl

theorem safe_kwName (a : Addr) (inv : Bool) (ps : List Str) : SafeE (kwName a inv ps) := by
  unfold kwName
  by_cases h1 : ps.length > 1
  · rw [if_pos h1]; exact safeE_err rfl
  rw [if_neg h1]
  cases inv
  · exact safeE_ok _
  · exact safeE_err rfl

theorem safe_kwParent (a : Addr) (inv : Bool) (ps : List Str) : SafeE (kwParent a inv ps) := by
  unfold kwParent
  by_cases h1 : ps.length > 1
  · rw [if_pos h1]; exact safeE_err rfl
  rw [if_neg h1]
  cases inv with
  | true => exact safeE_err rfl
  | false =>
    simp only [Bool.false_eq_true, if_false]
    split
    · exact safeE_err rfl
    · rename_i levels _
      by_cases h2 : levels > (a.length : Int)
      · rw [if_pos h2]; exact safeE_err rfl
      · rw [if_neg h2]
        by_cases h3 : levels < 1
        · rw [if_pos h3]; exact safeE_ok _
        · rw [if_neg h3]; exact safeE_ok _

/-! ## `unique` / `distinct`: the class of C15-K1 -/

/-- A value Python cannot hash: a hash or a list (a `CommentedMap` / `CommentedSeq`). -/
def unhashable : Node → Bool
  | .seq .. => true
  | .map .. => true
  | _ => false

/-- The member is a hash whose attribute `name` is unhashable. -/
def attrUnhashable (name : Str) : Node → Bool
  | .map _ es => match attrOf es name with
    | some x => unhashable x
    | none => false
  | _ => false

/-- **The input class of the known finding C15-K1**: the collection `n`, grouped by
`unique([scan])` / `distinct([scan])`, has a member whose compared value is unhashable — a plain
list holding a hash or a list; an Array-of-Hashes or a hash of hashes one of whose members has a
hash or a list under the scanned attribute. -/
def K1Node (n : Node) (scan : Option Str) : Bool :=
  match n with
  | .seq _ items =>
    if isAoh true items then
      match scan with
      | some name => items.any (attrUnhashable name)
      | none => false
    else
      match scan with
      | none => items.any unhashable
      | some _ => false
  | .map _ es =>
    match scan with
    | some name => es.any (fun kv => attrUnhashable name kv.2)
    | none => false
  | _ => false

/-- The segment is `[unique(…)]` / `[distinct(…)]` and the node is in the class of C15-K1 for its
parameter. -/
def K1Class (s : ESeg) (n : Node) : Bool :=
  match s with
  | .keyword _ k p =>
    (k == .unique || k == .distinct) &&
      (match splitParams p with
       | .ok ps => K1Node n ps.head?
       | .error _ => false)
  | _ => false

/-- A crash outcome is `TypeError`, and the condition `P` holds. -/
def CrashK1 {α : Type} (r : Except Err α) (P : Prop) : Prop :=
  ∀ e, r = .error e → e.isCrash = true → e = .crash .typeError ∧ P

theorem crashK1_ok {α : Type} {P : Prop} (x : α) : CrashK1 (.ok x : Except Err α) P := fun _ h => nomatch h

theorem crashK1_of_safe {α : Type} {r : Except Err α} {P : Prop} (h : SafeE r) : CrashK1 r P :=
  fun e he hc => absurd hc (by rw [h e he]; nofun)

theorem CrashK1.mono {α : Type} {r : Except Err α} {P Q : Prop} (h : CrashK1 r P) (hPQ : P → Q) : CrashK1 r Q :=
  fun e he hc => (h e he hc).imp_right hPQ

/-- An error passed on (possibly at another result type) stays in its class. -/
theorem CrashK1.error {α β : Type} {r : Except Err α} {e : Err} {P : Prop} (h : CrashK1 r P) (hr : r = .error e) :
    CrashK1 (.error e : Except Err β) P :=
  fun _ he hc => by cases he; exact h e hr hc

theorem crash_groupKey (x : Node) : CrashK1 (groupKey x) (unhashable x = true) := by
  intro e h hc
  cases x with
  | scalar a v => cases h
  | seq a items => cases h; exact ⟨rfl, rfl⟩
  | map a es => cases h; exact ⟨rfl, rfl⟩
  | set a ms => cases h; cases hc

theorem crash_groupAoh (name : Str) (a : Addr) : ∀ (items : List Node) (g : Groups) (i : Nat),
    CrashK1 (groupAoh name a g items i) (items.any (attrUnhashable name) = true) := by
  intro items
  induction items with
  | nil => exact fun _ _ => crashK1_ok _
  | cons n rest ih =>
    intro g i
    have tail := fun g' => (ih g' (i + 1)).mono
      (fun h2 => show (n :: rest).any (attrUnhashable name) = true by simp only [List.any_cons, h2, Bool.or_true])
    cases n with
    | map an es =>
      simp only [groupAoh]
      cases hx : attrOf es name with
      | none => exact tail _
      | some x =>
        simp only []
        cases hk : groupKey x with
        | error e' => exact ((crash_groupKey x).error hk).mono (fun h2 => by simp only [List.any_cons, attrUnhashable, hx, h2, Bool.true_or])
        | ok v => exact tail _
    | _ => simp only [groupAoh]; exact tail _

theorem crash_groupMap (name : Str) (inData : Bool) (a : Addr) : ∀ (es : List (Key × Node)) (g : Groups),
    CrashK1 (groupMap name inData a g es) (es.any (fun kv => attrUnhashable name kv.2) = true) := by
  intro es
  induction es with
  | nil => exact fun _ => crashK1_ok _
  | cons kv rest ih =>
    obtain ⟨k, n⟩ := kv
    intro g
    have tail := fun g' => (ih g').mono
      (fun h2 => show ((k, n) :: rest).any (fun kv => attrUnhashable name kv.2) = true by
        simp only [List.any_cons, h2, Bool.or_true])
    cases n with
    | map an es' =>
      simp only [groupMap]
      cases hx : attrOf es' name with
      | none => exact tail _
      | some x =>
        simp only []
        cases hk : groupKey x with
        | error e' => exact ((crash_groupKey x).error hk).mono (fun h2 => by simp only [List.any_cons, attrUnhashable, hx, h2, Bool.true_or])
        | ok v => exact tail _
    | _ =>
      simp only [groupMap]
      cases inData with
      | true => exact crashK1_of_safe (safeE_err rfl)
      | false => exact tail _

theorem crash_groupList (a : Addr) : ∀ (items : List Node) (g : Groups) (i : Nat),
    CrashK1 (groupList a g items i) (items.any unhashable = true) := by
  intro items
  induction items with
  | nil => exact fun _ _ => crashK1_ok _
  | cons n rest ih =>
    intro g i
    simp only [groupList]
    cases hk : groupKey n with
    | error e' => exact ((crash_groupKey n).error hk).mono (fun h2 => by simp [h2])
    | ok v => exact (ih _ (i + 1)).mono (fun h2 => by simp [h2])

theorem crash_map {α β : Type} (f : α → β) {r : Except Err α} {P : Prop} (h : CrashK1 r P) : CrashK1 (r.map f) P := by
  cases r with
  | ok x => exact crashK1_ok _
  | error e => exact h.error rfl

theorem crash_kwGroups (data : Node) (a : Addr) (scan : Option Str) :
    CrashK1 (kwGroups data a scan) (K1Node data scan = true) := by
  unfold kwGroups K1Node
  cases data with
  | scalar an v => exact crashK1_ok _
  | set an ms => exact crashK1_of_safe (safeE_err rfl)
  | seq an items =>
    simp only []
    split
    · cases scan with
      | none => exact crashK1_of_safe (safeE_err rfl)
      | some name => exact crash_map _ (crash_groupAoh name a items [] 0)
    · cases scan with
      | some name => exact crashK1_of_safe (safeE_err rfl)
      | none => exact crash_map _ (crash_groupList a items [] 0)
  | map an es =>
    cases scan with
    | none => exact crashK1_of_safe (safeE_err rfl)
    | some name => exact crash_map _ (crash_groupMap name _ a es [])

theorem crash_kwDistinct (data : Node) (a : Addr) (inv : Bool) (ps : List Str) :
    CrashK1 (kwDistinct data a inv ps) (K1Node data ps.head? = true) := by
  unfold kwDistinct
  cases inv with
  | true => exact crashK1_of_safe (safeE_err rfl)
  | false =>
    by_cases h1 : ps.length > 1
    · rw [if_neg Bool.false_ne_true, if_pos h1]; exact crashK1_of_safe (safeE_err rfl)
    rw [if_neg Bool.false_ne_true, if_neg h1]
    cases h : kwGroups data a ps.head? with
    | error e => exact (crash_kwGroups data a ps.head?).error h
    | ok o => cases o <;> exact crashK1_ok _

theorem crash_kwUnique (data : Node) (a : Addr) (inv : Bool) (ps : List Str) :
    CrashK1 (kwUnique data a inv ps) (K1Node data ps.head? = true) := by
  unfold kwUnique
  by_cases h1 : ps.length > 1
  · rw [if_pos h1]; exact crashK1_of_safe (safeE_err rfl)
  rw [if_neg h1]
  cases h : kwGroups data a ps.head? with
  | error e => exact (crash_kwGroups data a ps.head?).error h
  | ok o => cases o <;> exact crashK1_ok _

theorem safe_of_crashK1 {α : Type} {r : Except Err α} {P : Prop} (h : CrashK1 r P) (hP : ¬ P) : SafeE r := by
  intro e he
  cases hc : e.isCrash with
  | false => rfl
  | true => exact absurd (h e he hc).2 hP

/-- **Where `KeywordSearches.search_matches` can crash**: only `unique` / `distinct`, only with
`TypeError`, only on a collection in the class of C15-K1. -/
theorem crash_kwSearch (data : Node) (a : Addr) (inv : Bool) (k : Keyword) (p : Str) :
    CrashK1 (kwSearch data a inv k p) (K1Class (.keyword inv k p) data = true) := by
  unfold kwSearch
  cases hs : splitParams p with
  | error e' => exact crashK1_of_safe (safeE_err rfl)
  | ok ps =>
    simp only []
    cases k with
    | distinct => exact (crash_kwDistinct data a inv ps).mono (fun h2 => by simp [K1Class, hs, h2])
    | unique => exact (crash_kwUnique data a inv ps).mono (fun h2 => by simp [K1Class, hs, h2])
    | hasChild => exact crashK1_of_safe (safe_hasChild data a inv ps)
    | name => exact crashK1_of_safe (safe_kwName a inv ps)
    | max => exact crashK1_of_safe (safe_kwMinMax .gt data a inv ps)
    | min => exact crashK1_of_safe (safe_kwMinMax .lt data a inv ps)
    | parent => exact crashK1_of_safe (safe_kwParent a inv ps)

/-- `kwStep`, the handler of the evaluator, crashes only where `crash_kwSearch` says. -/
theorem crash_kwStep (rt : Node) (inv : Bool) (k : Keyword) (p : Str) (n : Node) (c : Ctx) (e : Err)
    (h : (kwStep rt inv k p n c).2 = some e) (hc : e.isCrash = true) :
    e = .crash .typeError ∧ K1Class (.keyword inv k p) n = true := by
  unfold kwStep at h
  split at h
  · rename_i e' he'
    simp only [Gen.fail, Option.some.injEq] at h
    subst h
    exact crash_kwSearch n c.addr inv k p _ he' hc
  · simp [Gen.one] at h
  · split at h
    · simp [Gen.ofList] at h
    · simp only [Gen.fail, Option.some.injEq] at h
      subst h
      cases hc

/-- A keyword segment outside the class of C15-K1 at every node never crashes. -/
theorem kwOk_of_not_grouping (rt : Node) (s : ESeg) (hs : s.grouping = false) : KwOk rt s := by
  intro inv k p hsk n c e he
  subst hsk
  cases hc : e.isCrash with
  | false => rfl
  | true =>
    obtain ⟨_, h2⟩ := crash_kwStep rt inv k p n c e he hc
    cases k with
    | unique | distinct => cases hs
    | _ => cases h2

end W1
end Ypv
