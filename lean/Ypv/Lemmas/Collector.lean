import Ypv.Model.Collector
import Ypv.Lemmas.EvalKw
import Ypv.Props.C14
/-!
# Lemmas about the collector evaluator (`Model/Collector.lean`)

* `Pres st st'` — the flag `hashSub` only rises, and while it is down the document and the deletion
  log are untouched; every function of the evaluator relates its input and output state by `Pres`.
* `Flagged Q out` — an outcome in the class `Q` (the crash outcomes, or none) implies the flag:
  `_collector_subtraction` is the only place where a collector adds a crash outcome, and only when
  its left operand holds a hash.
* `Good Q st out` — both; what the theorems of this module conclude.
-/
namespace Ypv.W3
open Ypv Ypv.Eval Gen

/-! ## `Pres`, `Flagged`, `Good` -/

def Pres (st st' : St) : Prop :=
  (st.hashSub = true → st'.hashSub = true) ∧
  (st'.hashSub = false → st'.doc = st.doc ∧ st'.dels = st.dels)

theorem Pres.refl (st : St) : Pres st st := ⟨id, fun _ => ⟨rfl, rfl⟩⟩

theorem Pres.trans {a b c : St} (h1 : Pres a b) (h2 : Pres b c) : Pres a c := by
  refine ⟨fun h => h2.1 (h1.1 h), fun h => ?_⟩
  have hb : b.hashSub = false := by
    cases hb : b.hashSub with
    | false => rfl
    | true => rw [h2.1 hb] at h; cases h
  obtain ⟨d2, l2⟩ := h2.2 h
  obtain ⟨d1, l1⟩ := h1.2 hb
  exact ⟨d2.trans d1, l2.trans l1⟩

/-- An outcome in the class `Q` (the crash outcomes, or no outcome at all) implies the flag. -/
def Flagged {α : Type} (Q : Err → Prop) (out : Gen α × St) : Prop :=
  ∀ e, out.1.2 = some e → Q e → out.2.hashSub = true

def Good (Q : Err → Prop) (st : St) (out : Gen CRes × St) : Prop := Pres st out.2 ∧ Flagged Q out

/-! ## The subtraction loops -/

theorem subLoop_noMap (rem : List RemEl) : ∀ (lhs upd : List CRes) (ds : List (Nat × Key)),
    (∀ l ∈ lhs, l.unwrap.isMap = false) →
    ∃ upd', subLoop rem lhs upd ds = .ok (upd', ds) := by
  intro lhs
  induction lhs with
  | nil => intro upd ds _; exact ⟨upd, rfl⟩
  | cons l more ih =>
    intro upd ds h
    have hl := h l List.mem_cons_self
    have hm : ∀ l ∈ more, l.unwrap.isMap = false := fun x hx => h x (List.mem_cons_of_mem _ hx)
    unfold subLoop
    split
    · rename_i a es heq
      rw [heq] at hl
      simp [Node.isMap] at hl
    · split
      · exact ih _ _ hm
      · exact ih _ _ hm
    · split
      · exact ih _ _ hm
      · exact ih _ _ hm

theorem delLoop_hashSub (amb : Ctx) : ∀ (ds : List (Nat × Key)) (upd : List CRes) (st : St),
    (delLoop amb ds upd st).2.2.hashSub = st.hashSub := by
  intro ds
  induction ds with
  | nil => intro upd st; rfl
  | cons d more ih =>
    intro upd st
    obtain ⟨i, k⟩ := d
    unfold delLoop
    split
    · rfl
    · split
      · rfl
      · rw [ih]

/-! ## Parsing never crashes (C14) -/

theorem segsOf_noCrash (t : Str) (e : Err) (h : segsOf t = .error e) : e.isCrash = false := by
  unfold segsOf at h
  rcases C14.parse_total true t with ⟨es, he⟩ | ⟨c, he⟩
  · rw [he] at h
    simp only at h
    rcases C14.parse_total false t with ⟨us, hu⟩ | ⟨c, hu⟩
    · rw [hu] at h
      simp only at h
      split at h
      · cases h
      · cases h; rfl
    · rw [hu] at h
      simp only [errOfPErr] at h
      cases h; rfl
  · rw [he] at h
    simp only [errOfPErr] at h
    cases h; rfl

/-! ## The operators -/

section
variable {inner : Inner} {Q : Err → Prop} (hQ : ∀ e, Q e → e.isCrash = true)
include hQ

theorem evalExpr_good (hin : ∀ segs r st, segsOf expr = .ok segs → Good Q st (inner segs r st)) (r : CRes) (st : St) :
    Good Q st (evalExpr inner expr r st) := by
  unfold evalExpr
  split
  · rename_i e he
    refine ⟨Pres.refl _, fun e' h1 h2 => ?_⟩
    cases h1
    have h3 := hQ _ h2
    rw [segsOf_noCrash _ _ he] at h3
    cases h3
  · rename_i segs he
    exact hin segs r st he

/-- `Good` for the outcome type of `foldOps`. -/
def FoldGood (Q : Err → Prop) (st : St) (out : Except Err (List CRes) × St) : Prop :=
  Pres st out.2 ∧ ∀ e, out.1 = .error e → Q e → out.2.hashSub = true

/-- The operands a fold will evaluate are all well-behaved. -/
def OperandsGood (Q : Err → Prop) (inner : Inner) (segs : List ESeg) : Prop :=
  ∀ expr op, ESeg.collector expr op ∈ segs → ∀ ss r st, segsOf expr = .ok ss → Good Q st (inner ss r st)

omit hQ in
theorem FoldGood.mono {st st1 : St} {out : Except Err (List CRes) × St} (h : FoldGood Q st1 out) (hp : Pres st st1) :
    FoldGood Q st out :=
  ⟨hp.trans h.1, h.2⟩

theorem foldOps_good (amb : Ctx) : ∀ (segs : List ESeg), OperandsGood Q inner segs →
    ∀ (r : CRes) (acc : List CRes) (st : St), FoldGood Q st (foldOps inner amb segs r acc st) := by
  intro segs
  induction segs with
  | nil => intro _ r acc st; unfold foldOps; exact ⟨Pres.refl _, fun e h => by cases h⟩
  | cons s rest ih =>
    intro hop r acc st
    have hrest : OperandsGood Q inner rest := fun expr op hm => hop expr op (List.mem_cons_of_mem _ hm)
    cases s with
    | collector expr op =>
      have hev := fun r st => evalExpr_good hQ (inner := inner) (expr := expr)
        (fun ss r st h => hop expr op List.mem_cons_self ss r st h) r st
      cases op with
      | none => unfold foldOps; exact ⟨Pres.refl _, fun e h hc => by cases h; cases hQ _ hc⟩
      | add | inter =>
        unfold foldOps
        simp only
        have h := hev r st
        rcases hq : evalExpr inner expr r st with ⟨⟨res, _ | e⟩, st1⟩
        · rw [hq] at h
          exact (ih hrest _ _ st1).mono h.1
        · rw [hq] at h
          exact ⟨h.1, fun e' he' hc => by cases he'; exact h.2 e rfl hc⟩
      | sub =>
        unfold foldOps
        simp only
        have h := hev r st
        rcases hq : evalExpr inner expr r st with ⟨⟨res, _ | e⟩, st1⟩
        · rw [hq] at h
          simp only
          cases hany : (syncAll st st1 acc).any (fun l => l.unwrap.isMap) with
          | false =>
            -- no hash on the left: nothing recorded for deletion, nothing raised
            obtain ⟨upd', hs⟩ := subLoop_noMap (res.flatMap (getDel st1.doc)) (syncAll st st1 acc) [] []
              (fun x hx => by simpa using List.any_eq_false.mp hany x hx)
            rw [hs]
            simp only [delLoop, Bool.or_false]
            exact (ih hrest _ upd' st1).mono h.1
          | true =>
            simp only [Bool.or_true]
            -- from here on the flag is up, which is all `Pres` and the conclusion ask for
            have flag : ∀ st3 : St, st3.hashSub = true → Pres st1 st3 :=
              fun st3 hk => ⟨fun _ => hk, fun hc => by rw [hk] at hc; cases hc⟩
            split
            · exact ⟨h.1.trans (flag _ rfl), fun _ _ _ => rfl⟩
            · rename_i upd ds _
              have hk := delLoop_hashSub amb ds upd { st1 with hashSub := true }
              split
              · rename_i e _ st3 hd
                rw [hd] at hk
                exact ⟨h.1.trans (flag st3 hk), fun _ _ _ => hk⟩
              · rename_i upd' st3 hd
                rw [hd] at hk
                exact (ih hrest _ upd' st3).mono (h.1.trans (flag st3 hk))
        · rw [hq] at h
          simp only
          exact ⟨h.1, fun e' he' hc => by cases he'; exact h.2 e rfl hc⟩
    | _ => unfold foldOps; exact ⟨Pres.refl _, fun e h => nomatch h⟩

theorem collectStep_good (hop : OperandsGood Q inner (.collector expr .none :: rest)) (r : CRes) (st : St) :
    Good Q st (collectStep inner expr rest r st) := by
  have hrest : OperandsGood Q inner rest := fun e op hm => hop e op (List.mem_cons_of_mem _ hm)
  have h := evalExpr_good hQ (inner := inner) (expr := expr) (fun ss r st h => hop expr .none List.mem_cons_self ss r st h) r st
  unfold collectStep
  rcases hq : evalExpr inner expr r st with ⟨⟨res, _ | e⟩, st1⟩
  · rw [hq] at h
    simp only
    have h' := foldOps_good hQ (inner := inner) r.ctx rest hrest (r.applyDels (newDels st st1)) (gatherFirst res) st1
    rcases hf : foldOps inner r.ctx rest (r.applyDels (newDels st st1)) (gatherFirst res) st1 with ⟨_ | _ | _, st2⟩
    · rw [hf] at h'
      rename_i e
      exact ⟨h.1.trans h'.1, fun e' he' hc => by cases he'; exact h'.2 e rfl hc⟩
    · rw [hf] at h'
      exact ⟨h.1.trans h'.1, fun _ he' _ => nomatch he'⟩
    · rw [hf] at h'
      exact ⟨h.1.trans h'.1, fun _ he' _ => nomatch he'⟩
  · rw [hq] at h
    simp only
    exact ⟨h.1, fun e' he' hc => by cases he'; exact h.2 e rfl hc⟩

end

/-! ## Non-collector segments never crash -/

mutual
theorem noCrash_keyThrough (k : Str) : (r : CRes) → (keyThrough k r).NoCrash
  | .real n c => by unfold keyThrough; exact noCrash_map _ (noCrash_keyStep _ _ _ _)
  | .virt items _ => by unfold keyThrough; exact noCrash_keyThroughList k items
  | .wrap _ _ => by unfold keyThrough; exact noCrash_nil
theorem noCrash_keyThroughList (k : Str) : (l : List CRes) → (keyThroughList k l).NoCrash
  | [] => by unfold keyThroughList; exact noCrash_nil
  | x :: xs => by
    unfold keyThroughList
    exact noCrash_append (noCrash_keyThrough k x) (noCrash_keyThroughList k xs)
end

theorem noCrash_virtElemAt (items : List CRes) (i : Int) (c : Ctx) : (virtElemAt items i c).NoCrash := by
  unfold virtElemAt
  split
  · rename_i h
    obtain ⟨x, hx⟩ := pyGetItem_inRange items i h
    rw [hx]
    exact noCrash_one _
  · exact noCrash_nil

section
variable {mt : Matcher} {dsc : Node → Desc}

theorem noCrash_stepPlain (hmt : MtSafe mt) (hd : ∀ rt, DscSafe (dsc rt)) (rt : Node) (s : ESeg) (rest : List ESeg)
    (hk : ∀ s' ∈ s :: rest, s'.grouping = false) (r : CRes) : (stepPlain mt dsc rt s rest r).NoCrash := by
  unfold stepPlain
  split
  · exact noCrash_map _ (noCrash_stepSeg hmt (hd rt) rest s true _ _ (W1.kwOk_of_not_grouping rt s (hk s List.mem_cons_self))
      (fun s' hs' => W1.kwOk_of_not_grouping rt s' (hk s' (List.mem_cons_of_mem _ hs'))))
  · rename_i items c _
    unfold stepVirtC
    split
    · split
      · exact noCrash_virtElemAt _ _ _
      · exact noCrash_keyThroughList _ _
    · exact noCrash_virtElemAt _ _ _
    · unfold virtSlice
      split
      · split
        · rename_i h
          obtain ⟨x, hx⟩ := pyGetItem_inRange items _ h.2
          rw [hx]
          exact noCrash_one _
        · exact noCrash_one _
      · exact noCrash_fail rfl
    · exact noCrash_fail rfl
  · unfold stepOnNC
    split
    · exact noCrash_nil
    · exact noCrash_nil
    · exact noCrash_nil
    · exact noCrash_fail rfl

/-! ## Every step, the collector included, is `Good` -/

/-- A segment the evaluation may meet: no `unique`/`distinct` keyword (class of C15-K1) unless `Q` is
empty, and the operand of a collector evaluates well. -/
def SegOk (Q : Err → Prop) (inner : Inner) (s : ESeg) : Prop :=
  (s.grouping = false ∨ ∀ e, ¬ Q e) ∧
  ∀ expr op, s = .collector expr op → ∀ ss r st, segsOf expr = .ok ss → Good Q st (inner ss r st)

/-- Either nothing is to be shown about errors, or the matcher and the attribute evaluation are safe. -/
def Safe (Q : Err → Prop) (mt : Matcher) (dsc : Node → Desc) : Prop :=
  (∀ e, ¬ Q e) ∨ (MtSafe mt ∧ ∀ rt, DscSafe (dsc rt))

variable {Q : Err → Prop} (hQ : ∀ e, Q e → e.isCrash = true)

include hQ

theorem good_of_noCrash {g : Gen CRes} (st : St) (h : g.NoCrash) : Good Q st (g, st) :=
  ⟨Pres.refl _, fun e he hc => by have h3 := hQ _ hc; rw [h e he] at h3; cases h3⟩

omit hQ in
theorem good_of_noQ {g : Gen CRes} (st : St) (h : ∀ e, ¬ Q e) : Good Q st (g, st) :=
  ⟨Pres.refl _, fun e _ hc => absurd hc (h e)⟩

theorem stepM_good {inner : Inner} (hsafe : Safe Q mt dsc) (s : ESeg) (rest : List ESeg)
    (hs : ∀ s' ∈ s :: rest, SegOk Q inner s') (r : CRes) (st : St) : Good Q st (stepM mt dsc inner s rest r st) := by
  have hop : OperandsGood Q inner (s :: rest) := fun expr op hm ss r st h => (hs _ hm).2 expr op rfl ss r st h
  have plain : Good Q st (stepPlain mt dsc st.doc s rest r, st) := by
    by_cases hq : ∀ e, ¬ Q e
    · exact good_of_noQ st hq
    · have hk : ∀ s' ∈ s :: rest, s'.grouping = false := fun s' h => (hs s' h).1.resolve_right hq
      have hsf := hsafe.resolve_left hq
      exact good_of_noCrash hQ st (noCrash_stepPlain hsf.1 hsf.2 _ _ _ hk r)
  cases s with
  | collector expr op =>
    cases op with
    | none =>
      unfold stepM
      simp only
      split
      · exact good_of_noCrash hQ st (noCrash_fail rfl)
      · exact collectStep_good hQ hop _ st
    | add | sub | inter =>
      unfold stepM
      simp only
      split
      · exact good_of_noCrash hQ st (noCrash_one _)
      · exact good_of_noCrash hQ st (noCrash_fail rfl)
  | _ => exact plain

theorem bindS_good {f : CRes → St → Gen CRes × St} (hf : ∀ x st, Good Q st (f x st)) (st0 : St) :
    ∀ (l : List CRes) (st : St), Good Q st (bindS f st0 l st) := by
  intro l
  induction l with
  | nil => intro st; unfold bindS; exact good_of_noCrash hQ st noCrash_nil
  | cons x xs ih =>
    intro st
    unfold bindS
    have h := hf (x.applyDels (newDels st0 st)) st
    rcases hq : f (x.applyDels (newDels st0 st)) st with ⟨⟨res, _ | e⟩, st1⟩
    · rw [hq] at h
      simp only
      exact ⟨h.1.trans (ih st1).1, (ih st1).2⟩
    · rw [hq] at h
      simp only
      exact h

theorem requiredW_good {inner : Inner} (hsafe : Safe Q mt dsc) :
    ∀ (segs : List ESeg), (∀ s ∈ segs, SegOk Q inner s) → ∀ (r : CRes) (st : St),
      Good Q st (requiredW mt dsc inner segs r st) := by
  intro segs
  induction segs with
  | nil => intro _ r st; unfold requiredW; exact good_of_noCrash hQ st (noCrash_one _)
  | cons s rest ih =>
    intro hs r st
    have hrest : ∀ s' ∈ rest, SegOk Q inner s' := fun s' h => hs s' (List.mem_cons_of_mem _ h)
    unfold requiredW
    have h := stepM_good hQ (mt := mt) (dsc := dsc) hsafe s rest hs r st
    rcases hq : stepM mt dsc inner s rest r st with ⟨g, st1⟩
    rw [hq] at h
    simp only
    have h' := bindS_good hQ (f := requiredW mt dsc inner rest) (fun x st => ih hrest x st) st1 g.1 st1
    rcases hb : bindS (requiredW mt dsc inner rest) st1 g.1 st1 with ⟨⟨res, _ | e⟩, st2⟩
    · rw [hb] at h'
      simp only
      exact ⟨h.1.trans h'.1, fun e' he' hc => h'.1.1 (h.2 e' he' hc)⟩
    · rw [hb] at h'
      simp only
      exact ⟨h.1.trans h'.1, h'.2⟩

omit hQ in
/-- **State relation of the whole evaluator**, no hypothesis: the flag only rises; while it is down
the document and the deletion log are untouched. -/
theorem requiredM_pres : ∀ (fuel : Nat) (segs : List ESeg) (r : CRes) (st : St),
    Pres st (requiredM mt dsc fuel segs r st).2 := by
  have hQ0 : ∀ e : Err, (fun _ : Err => False) e → e.isCrash = true := fun _ h => h.elim
  suffices h : ∀ (fuel : Nat) (segs : List ESeg) (r : CRes) (st : St),
      Good (fun _ => False) st (requiredM mt dsc fuel segs r st) from fun f s r st => (h f s r st).1
  intro fuel
  induction fuel with
  | zero => intro segs r st; unfold requiredM; exact good_of_noQ st (fun _ h => h)
  | succ f ih =>
    intro segs r st
    unfold requiredM
    exact requiredW_good hQ0 (Or.inl (fun _ h => h)) segs
      (fun s _ => ⟨Or.inr (fun _ h => h), fun _ _ _ ss r st _ => ih ss r st⟩) r st

/-! ## The decidable path class of the crash theorem -/

/-- No `unique` / `distinct` keyword segment (class of C15-K1) at any nesting level of the collector
texts the evaluation parses with `fuel`. -/
def okDeep : Nat → List ESeg → Bool
  | 0, _ => true
  | f + 1, segs => segs.all (fun s => !s.grouping &&
      (match s with
       | .collector e _ =>
         (match segsOf e with
          | .ok ss => okDeep f ss
          | .error _ => true)
       | _ => true))

omit hQ in
theorem requiredM_good (hmt : MtSafe mt) (hd : ∀ rt, DscSafe (dsc rt)) :
    ∀ (fuel : Nat) (segs : List ESeg), okDeep fuel segs = true → ∀ (r : CRes) (st : St),
      Good (fun e => e.isCrash = true) st (requiredM mt dsc fuel segs r st) := by
  have hQ1 : ∀ e : Err, (fun e : Err => e.isCrash = true) e → e.isCrash = true := fun _ h => h
  intro fuel
  induction fuel with
  | zero => intro segs _ r st; unfold requiredM; exact good_of_noCrash hQ1 st (noCrash_fail rfl)
  | succ f ih =>
    intro segs hok r st
    unfold requiredM
    refine requiredW_good hQ1 (Or.inr ⟨hmt, hd⟩) segs ?_ r st
    intro s hs
    unfold okDeep at hok
    rw [List.all_eq_true] at hok
    have h := hok s hs
    simp only [Bool.and_eq_true, Bool.not_eq_true'] at h
    refine ⟨Or.inl h.1, ?_⟩
    intro expr op he ss r st hss
    subst he
    have h2 := h.2
    simp only [hss] at h2
    exact ih ss h2 r st

end

end Ypv.W3
