import Ypv.Lemmas.EvalPath
import Ypv.Lemmas.EvalKwLoc
/-!
# The segments of a reported path select exactly the node (C02 `path_reresolves`)

`resolve_steps`: for `LocP d n c ss` in a document without twin keys (`docClear d`: no integer key
beside the string key of its digits, no two set members of one text; per step `stepClear`; both in
`Lemmas/EvalKwLoc.lean`), where every anchor
a section names is borne by one child of its parent only (`aloneAlong`), the segments KEY `t` /
INDEX `i` / ANCHOR `a` of the steps, evaluated from the root, select exactly `n`, once, at `c.addr`.
`resolve_steps_aliased`: when the LAST section names an anchor that several children bear, exactly
those children are selected, in document order — "once per place it is aliased".
-/
namespace Ypv.Acc
open Ypv Ypv.Eval Ypv.W1 Gen

def Sec.eseg : Sec → ESeg
  | .key t => .key t
  | .idx i => .index i
  | .anc a => .anchor a

theorem eseg_segs (ss : List Sec) : (ss.map Sec.seg).map ESeg.ofSeg = ss.map Sec.eseg := by
  rw [List.map_map]
  exact List.map_congr_left (fun x _ => by cases x <;> rfl)

/-- how many children of `n` bear the anchor `a` (what `_get_nodes_by_anchor` looks through: the
elements of a list, the values of a dict) -/
def ancCount : Node → Str → Nat
  | .seq _ items, a => items.countP (fun x => x.anchor == some a)
  | .map _ es, a => es.countP (fun kv => kv.2.anchor == some a)
  | _, _ => 0

/-- an anchor section names one child only -/
def aloneAt (n : Node) : Sec → Bool
  | .anc a => ancCount n a == 1
  | _ => true

/-- along the address: every anchor named by a section is borne by one child of its parent only
(otherwise the path denotes every bearer: `resolve_steps_aliased`) -/
def aloneAlong : Node → Addr → List Sec → Bool
  | n, r :: rs, s :: ss => aloneAt n s && (match n.child? r with
      | some m => aloneAlong m rs ss
      | none => true)
  | _, _, _ => true

theorem aloneAlong_snoc (s : Sec) (r : Ref) : ∀ (addr : Addr) (ss : List Sec) (d : Node),
    ss.length = addr.length → ∀ n, d.get? addr = some n →
    aloneAlong d (addr ++ [r]) (ss ++ [s]) = (aloneAlong d addr ss && aloneAt n s) := by
  intro addr
  induction addr with
  | nil =>
    intro ss d hl n hn
    cases ss with
    | nil =>
      simp only [Node.get?, Option.some.injEq] at hn
      subst hn
      cases hc : d.child? r <;> simp [aloneAlong, hc]
    | cons _ _ => simp at hl
  | cons r0 rs ih =>
    intro ss d hl n hn
    cases ss with
    | nil => simp at hl
    | cons s0 ss =>
      simp only [Node.get?] at hn
      cases hc : d.child? r0 with
      | none => simp [hc] at hn
      | some m =>
        rw [hc] at hn
        simp only [List.cons_append, aloneAlong, hc]
        rw [ih ss m (by simpa using hl) n hn, Bool.and_assoc]

theorem prefOk_idx {n : Node} {i : Int} {r : Ref} (h : prefOk n (.idx i) r) :
    ∃ a items, n = .seq a items ∧ inRange items.length i = true ∧ r = .idx (normIdx items.length i) := by
  cases n <;> cases r <;> first | exact h.elim | exact ⟨_, _, rfl, h.1, h.2 ▸ rfl⟩

theorem prefOk_key {n : Node} {k : Key} {r : Ref} (h : prefOk n (.key k) r) :
    ∃ a es, n = .map a es ∧ r = .key k := by
  cases n <;> cases r <;> first | exact h.elim | exact ⟨_, _, rfl, h ▸ rfl⟩

theorem filter_unique {α : Type} {q : α → Bool} {l : List α} {x : α} (hx : x ∈ l) (hq : q x = true)
    (h1 : l.countP q = 1) : l.filter q = [x] := by
  obtain ⟨y, hy⟩ := List.length_eq_one_iff.mp (List.countP_eq_length_filter ▸ h1)
  have hxy : x ∈ l.filter q := List.mem_filter.mpr ⟨hx, hq⟩
  rw [hy] at hxy ⊢
  rw [List.eq_of_mem_singleton hxy]

theorem anchorGo_fst (a : Str) (c : Ctx) : ∀ (items : List Node) (i0 : Nat),
    (anchorKids.go a c items i0).map Prod.fst = items := by
  intro items
  induction items with
  | nil => exact fun _ => rfl
  | cons x xs ih => exact fun i0 => congrArg (x :: ·) (ih (i0 + 1))

theorem countP_anchorKids (a : Str) (n : Node) (c : Ctx) :
    (anchorKids a n c).countP (fun nc => nc.1.anchor == some a) = ancCount n a := by
  cases n with
  | seq an items =>
    show _ = items.countP _
    conv => rhs; rw [← anchorGo_fst a c items 0, List.countP_map]
    rfl
  | map an es => exact List.countP_map
  | _ => rfl

theorem anchorKid_mem {n m : Node} (c : Ctx) {r : Ref} {pr : PRef} {a : Str} (hc : n.child? r = some m)
    (hp : prefOk n pr r) (hs : StepSec n m pr (.anc a)) :
    ∃ c', (m, c') ∈ anchorKids a n c ∧ m.anchor = some a ∧ c'.addr = c.addr ++ [r] := by
  cases hs with
  | ancIdx i a' ha =>
    obtain ⟨an, items, rfl, _, rfl⟩ := prefOk_idx hp
    exact ⟨_, (mem_idxKids (F := anchorKids.go a c) (fun _ => rfl) (fun _ _ _ => rfl)).mpr ⟨_, hc, rfl⟩, ha,
      by rw [Nat.zero_add]⟩
  | ancKey k a' ha =>
    obtain ⟨an, es, rfl, rfl⟩ := prefOk_key hp
    exact ⟨_, List.mem_map.mpr ⟨(k, m), mem_of_lookup hc, rfl⟩, ha, rfl⟩

variable (mt : Matcher) (dsc : Desc) (rt : Node)

/-- **One step**: the segment of the section, applied at the parent, selects exactly the child. -/
theorem step_resolves {n m : Node} (c : Ctx) {r : Ref} {pr : PRef} {s : Sec}
    (hc : n.child? r = some m) (hp : prefOk n pr r) (hs : StepSec n m pr s)
    (hcl : stepClear n pr = true) (hal : aloneAt n s = true) :
    ∃ c', stepSeg mt dsc rt s.eseg [] true n c = Gen.one (.real (m, c')) ∧ c'.addr = c.addr ++ [r] := by
  cases s with
  | anc a =>
    obtain ⟨c', hmem, ha, hadr⟩ := anchorKid_mem c hc hp hs
    refine ⟨c', ?_, hadr⟩
    have h1 : (anchorKids a n c).countP (fun nc => nc.1.anchor == some a) = 1 := by
      rw [countP_anchorKids]
      exact beq_iff_eq.mp hal
    have hq : (fun nc : NC => nc.1.anchor == some a) (m, c') = true := beq_iff_eq.mpr ha
    simp only [Sec.eseg, stepSeg_anchor, anchorStep, filter_unique hmem hq h1]
    rfl
  | idx i =>
    cases hs
    obtain ⟨a, items, rfl, hin, rfl⟩ := prefOk_idx hp
    obtain ⟨x, hx⟩ := pyGetItem_inRange items i hin
    cases (pyGetItem_spec items i x hin hx).symm.trans hc
    refine ⟨c.child (.idx (normIdx items.length i)) (.idx i) (idxSection i), ?_, rfl⟩
    simp only [Sec.eseg, stepSeg_index, indexStep, elemAt, hin, if_true, hx]
    rfl
  | key t =>
    cases hs with
    | member k =>
      rcases child?_cases hc with ⟨_, _, _, rfl, rfl, _⟩ | ⟨_, _, _, rfl, rfl, _⟩ | ⟨a, ms, k', rfl, rfl, _, rfl⟩
      · exact hp.elim
      · exact hp.elim
      · cases (show k = k' from hp)
        refine ⟨c.child (.member k) (.member k) (escSection k.text), ?_, rfl⟩
        simp only [Sec.eseg, stepSeg_key, keyStep, keyOnSet, beq_iff_eq.mp hcl]
        rfl
    | key k t hk =>
      obtain ⟨a, es, rfl, rfl⟩ := prefOk_key hp
      refine ⟨c.child (.key k) (.key k) (escSection t), ?_, rfl⟩
      cases k with
      | str s' =>
        cases hk
        simp only [Sec.eseg, stepSeg_key, keyStep, keyOnMap, show es.lookup (.str t) = some m from hc]
        rfl
      | int i =>
        obtain ⟨hi, hor⟩ := hk
        have hnone : es.lookup (.str t) = none :=
          hor.elim (fun h => h ▸ Option.isNone_iff_eq_none.mp hcl) id
        simp only [Sec.eseg, stepSeg_key, keyStep, keyOnMap, hnone, hi, show es.lookup (.int i) = some m from hc]
        rfl

theorem eseg_plain (ss : List Sec) : ∀ t ∈ ss.map Sec.eseg, t ≠ .matchAll ∧ t ≠ .traverse := by
  intro t ht
  obtain ⟨s, _, rfl⟩ := List.mem_map.mp ht
  cases s <;> exact ⟨nofun, nofun⟩

theorem required_single (s : ESeg) (r : Res) : required mt dsc rt [s] r = stepRes mt dsc rt s [] r :=
  Gen.bind_one_right _

/-- **The segments of the steps select exactly the node.** -/
theorem resolve_steps {d n : Node} {c : Ctx} {ss : List Sec} (hcl : docClear d = true)
    (h : LocP d n c ss) (hal : aloneAlong d c.addr ss = true) :
    ∃ c', required mt dsc d (ss.map Sec.eseg) (.real (d, Ctx.root)) = Gen.one (.real (n, c')) ∧
      c'.addr = c.addr := by
  induction h with
  | root => exact ⟨Ctx.root, rfl, rfl⟩
  | @child n0 c0 ss0 r pr s m hl hc hp hs ih =>
    have hlen := hl.path.2
    have hget := hl.loc.get
    have hsn : aloneAlong d (c0.child r pr s.mtext).addr (ss0 ++ [s])
        = (aloneAlong d c0.addr ss0 && aloneAt n0 s) := by
      simpa [Ctx.child] using aloneAlong_snoc s r c0.addr ss0 d hlen n0 hget
    rw [hsn, Bool.and_eq_true] at hal
    obtain ⟨c1, h1, ha1⟩ := ih hal.1
    have hclr : stepClear n0 pr = true :=
      stepClear_of_nodeClear (docClear_node (loc_clear hl.loc hcl)) hc hp
    obtain ⟨c2, h2, ha2⟩ := step_resolves mt dsc d c1 hc hp hs hclr hal.2
    refine ⟨c2, ?_, by simp [Ctx.child, ha2, ha1]⟩
    rw [List.map_append, List.map_cons, List.map_nil, required_append_plain mt dsc d _ _ _ (eseg_plain _), h1, Gen.bind_one, required_single]
    exact h2

/-! ## The key / index segments naming the reported references -/

/-- the section that names a reported reference: a key or set member by its text, a list element by
the index as reported -/
def secOfPref : PRef → Sec
  | .key k => .key k.text
  | .member k => .key k.text
  | .idx i => .idx i

/-- A located node, whatever its path sections, is located at the same address by the sections naming
its reported references; none of them is an anchor section. -/
theorem steps_of_loc {d n : Node} {c : Ctx} (h : Loc d n c) :
    ∃ c' ss, LocP d n c' ss ∧ c'.addr = c.addr ∧ ss.map Sec.eseg = pathSegs c ∧ ∀ s ∈ ss, s.isAnc = false := by
  induction h with
  | root => exact ⟨Ctx.root, [], .root, rfl, rfl, nofun⟩
  | @child n0 c0 r pr sec m _ hc hp ih =>
    obtain ⟨c', ss, hl, ha, hs, hn⟩ := ih
    have hst : StepSec n0 m pr (secOfPref pr) := by
      cases pr with
      | key k => exact .key k _ (keyNames_self _ k)
      | idx i => exact .idx i
      | member k => exact .member k
    refine ⟨_, _, .child r pr _ m hl hc hp hst, congrArg (· ++ [r]) ha, ?_, ?_⟩
    · rw [List.map_append, hs]
      show _ = List.map (fun e => segOfPref e.2) (c0.anc ++ [(c0.addr, pr)])
      rw [List.map_append]
      cases pr <;> rfl
    · intro s hs
      rcases List.mem_append.mp hs with h | h
      · exact hn s h
      · cases List.mem_singleton.mp h
        cases pr <;> rfl

theorem aloneAlong_of_noAnc : ∀ (addr : Addr) (d : Node) (ss : List Sec), (∀ s ∈ ss, s.isAnc = false) →
    aloneAlong d addr ss = true := by
  intro addr
  induction addr with
  | nil => intro _ _ _; unfold aloneAlong; rfl
  | cons r rs ih =>
    intro d ss h
    cases ss with
    | nil => rfl
    | cons s ss =>
      have hs : aloneAt d s = true := by
        have := h s List.mem_cons_self
        cases s <;> first | rfl | cases this
      simp only [aloneAlong, hs, Bool.true_and]
      cases d.child? r with
      | none => rfl
      | some m => exact ih m ss (fun x hx => h x (List.mem_cons_of_mem _ hx))

/-- **Coordinates re-resolve.**  The key / index segments naming the reported references of a located
node (one per ancestry entry), evaluated from the document root, select exactly that node, once,
at its address. -/
theorem coords_reresolve_loc {d n : Node} {c : Ctx} (hcl : docClear d = true) (h : Loc d n c) :
    ∃ c', required mt dsc d (pathSegs c) (.real (d, Ctx.root)) = Gen.one (.real (n, c')) ∧ c'.addr = c.addr := by
  obtain ⟨c1, ss, hl, ha, hs, hn⟩ := steps_of_loc h
  obtain ⟨c', h1, h2⟩ := resolve_steps mt dsc hcl hl (aloneAlong_of_noAnc _ _ _ hn)
  exact ⟨c', hs ▸ h1, h2.trans ha⟩

/-! ## A last section that names an anchor borne by several children -/

/-- **Once per place it is aliased**: the segments of steps that end in an anchor section select
exactly the children of the parent that bear the anchor, in document order. -/
theorem resolve_steps_aliased {d n0 : Node} {c0 : Ctx} {ss0 : List Sec}
    (hcl : docClear d = true) (h : LocP d n0 c0 ss0) (hal : aloneAlong d c0.addr ss0 = true) (a : Str) :
    ∃ c1, c1.addr = c0.addr ∧
      required mt dsc d ((ss0 ++ [Sec.anc a]).map Sec.eseg) (.real (d, Ctx.root)) =
        Gen.ofList (((anchorKids a n0 c1).filter (fun nc => nc.1.anchor == some a)).map Res.real) := by
  obtain ⟨c1, h1, ha1⟩ := resolve_steps mt dsc hcl h hal
  refine ⟨c1, ha1, ?_⟩
  rw [List.map_append, List.map_cons, List.map_nil, required_append_plain mt dsc d _ _ _ (eseg_plain _), h1, Gen.bind_one, required_single]
  rfl

end Ypv.Acc
