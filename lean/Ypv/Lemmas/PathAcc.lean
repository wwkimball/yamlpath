import Ypv.Lemmas.PathJoin
import Ypv.Lemmas.SearchPath
import Ypv.Model.PathAcc
/-!
# The reported path: accumulated text, its `str()`, and what that parses to

1. `accObj_eq`: the object built by `YAMLPath("") + s₀ + s₁ + …` holds the text `s₀.s₁.…`
   (sections joined by the dot) when the first section does not start with `/`.
2. The sections the handlers produce (`Sec`: escaped key text, `[i]`, `[&name]`) are loosely written
   segments (`Sec.lseg`); the evaluator model's `escSection` IS the library's `escape_path_section`
   for every text without two adjacent backslashes (`escSection_real`; with them: finding C07-K6).
3. `render_plain`: the stringifier's text of the unescaped segments of plain sections, in either notation,
   parses again to their segments (`render_texts`, `render_parse` of `Lemmas/PathSim.lean`).
4. `raw_steps`: the accumulated text of good steps (every section `Sec.ok`) is in normal form, in dot notation, and parses
   (unescaped) to the steps' segments (`parseWith_texts_join`).  `reported_steps` / `reportedAs_steps`:
   `str(result.path)` (and the same after `path.separator = …`) succeeds and parses, separator inferred, to
   the segments of the steps.
-/
namespace Ypv.Acc
open Ypv Ypv.Sim Ypv.Search Ypv.Search.Rr

/-! ## 1. The accumulated object -/

theorem new_nil : PathObj.new [] = { original := [], sep := .auto, unesc := [], esc := [], strd := [] } := by
  rfl

theorem add_nil (s : Str) : (PathObj.new []).add s = PathObj.new s := by
  simp [PathObj.add, PathObj.append, PathObj.new, PathObj.setOriginal, PathObj.getSep, normOriginal, inferSep]

theorem add_dot {t : Str} (s : Str) (hn : normOriginal t = t) {ch : Char} {k : Str} (ht : t = ch :: k)
    (hc : ch ≠ '/') : (PathObj.new t).add s = PathObj.new (t ++ '.' :: s) := by
  subst ht
  simp [PathObj.add, PathObj.append, PathObj.new, PathObj.setOriginal, PathObj.getSep, hn, inferSep, hc]

/-- the sections joined by the dot -/
def joinText : List Str → Str
  | [] => []
  | s :: r => s ++ r.flatMap (fun x => '.' :: x)

theorem foldl_add (rest : List Str) : ∀ (t : Str), normOriginal t = t → (∃ ch k, t = ch :: k ∧ ch ≠ '/') →
    rest.foldl PathObj.add (PathObj.new t) = PathObj.new (t ++ rest.flatMap (fun x => '.' :: x)) := by
  induction rest with
  | nil => intro t _ _; simp
  | cons s r ih =>
    intro t hn ⟨ch, k, ht, hc⟩
    simp only [List.foldl_cons, add_dot s hn ht hc]
    rw [ih (t ++ '.' :: s) (normOriginal_append _ hn (by simp [ht])) ⟨ch, k ++ '.' :: s, by simp [ht], hc⟩]
    simp

/-- **The accumulated object holds the sections joined by the dot.** -/
theorem accObj_eq (s : Str) (rest : List Str) (hn : normOriginal s = s)
    (hh : ∃ ch k, s = ch :: k ∧ ch ≠ '/') :
    accObj (s :: rest) = PathObj.new (joinText (s :: rest)) := by
  simp only [accObj, List.foldl_cons, add_nil, joinText]
  exact foldl_add rest s hn hh

theorem accObj_nil : accObj [] = PathObj.new [] := rfl

/-! ## 2. The sections the handlers produce -/

/-- one step of a reported path, as the evaluator writes it -/
inductive Sec
  | key (t : Str)    -- a dict key / set member, by the text `t`: `escape_path_section(t)`
  | idx (i : Int)    -- a list element: `[i]`
  | anc (a : Str)    -- an anchor match: `[&a]`
  deriving DecidableEq, Repr

/-- the section text in the evaluator model (`Model/Eval.lean`) -/
def Sec.mtext : Sec → Str
  | .key t => escSection t
  | .idx i => idxSection i
  | .anc a => Eval.anchorSection a

/-- the section text as the library writes it (`escape_path_section` of `Model/Render.lean`, the
C08 model of the real function, with the separator of the empty path: DOT) -/
def Sec.text : Sec → Str
  | .key t => escapePathSection '.' t
  | .idx i => '[' :: (pyStrInt i ++ [']'])
  | .anc a => '[' :: '&' :: (escapePathSection '.' a ++ [']'])

/-- what the notation can express, and `escape_path_section` escapes faithfully: key text not empty,
no `*`, not starting `&`, not only control white space (C08 `wfKeyText`), anchor names not empty, no
`*`, no operator character; no two adjacent backslashes (C07-K6) -/
def Sec.ok : Sec → Bool
  | .key t => okKeyText t
  | .idx _ => true
  | .anc a => okName a

def Sec.isAnc : Sec → Bool
  | .anc _ => true
  | _ => false

def Sec.lseg : Sec → LSeg
  | .key t => .key (secToks '.' t)
  | .idx i => .index i
  | .anc a => .anchor false (secToks '.' a)

/-- the segment a step is read back as -/
def Sec.seg : Sec → Seg
  | .key t => (.key, .str t)
  | .idx i => (.index, .int i)
  | .anc a => (.anchor, .str a)

theorem lseg_seg (s : Sec) : s.lseg.seg true = s.seg := by
  cases s <;> simp [Sec.lseg, Sec.seg, LSeg.seg, tokView, tokChars_secToks]

/-- the evaluator model's escaper writes the token text of `secToks` — for every text -/
theorem escSection_toks (t : Str) : escSection t = tokText (secToks '.' t) := by
  cases t with
  | nil => rfl
  | cons c r =>
    have hraw : escSectionRaw (c :: r) = Tok.text (special '.' c, c) ++ tokText (tokenize '.' r) := by
      rw [tokText_tokenize]; rfl
    show _ = Tok.text (special '.' c || (c == '/' && '.' != '/'), c) ++ tokText (tokenize '.' r)
    rw [escSection, hraw]
    by_cases hc : c = '/'
    · subst hc; rfl
    · rw [show (c == '/' && '.' != '/') = false by rw [beq_eq_false_iff_ne.mpr hc]; rfl, Bool.or_false]
      -- the raw text starts `\` or `c`, not `/`: the leading-slash rule does not apply
      cases special '.' c with
      | true => rfl
      | false =>
        split
        · rename_i heq; exact absurd (List.cons.inj heq).1 hc
        · rfl

/-- **The evaluator model's section text is the library's `escape_path_section`** whenever the text
has no two adjacent backslashes. -/
theorem escSection_real (t : Str) (h : noDbl t = true) : escSection t = escapePathSection '.' t := by
  rw [escSection_toks, escapePathSection_eq (Or.inl rfl) t h]

theorem mtext_eq (s : Sec) (h : s.ok = true) : s.mtext = s.text := by
  cases s with
  | key t =>
    simp only [Sec.ok, okKeyText, Bool.and_eq_true] at h
    simp [Sec.mtext, Sec.text, escSection_real t h.2]
  | idx i => rfl
  | anc a =>
    simp only [Sec.ok, okName, Bool.and_eq_true] at h
    simp [Sec.mtext, Sec.text, Eval.anchorSection, escSection_real a h.2]

theorem mtext_lseg (s : Sec) : s.mtext = s.lseg.text '.' false := by
  cases s with
  | key t => simp [Sec.mtext, Sec.lseg, LSeg.text, sepIf, escSection_toks]
  | idx i => simp [Sec.mtext, Sec.lseg, LSeg.text, idxSection]
  | anc a => simp [Sec.mtext, Sec.lseg, LSeg.text, Eval.anchorSection, escSection_toks]

theorem plain_sec (s : Sec) (hs : s.ok = true) : Plain '.' s.lseg := by
  cases s with
  | key t => exact plain_step (Or.inl rfl) (.key (.str t)) hs
  | idx i => exact ⟨trivial, rfl, rfl, trivial, trivial, '[', _, rfl, by decide⟩
  | anc a => exact plain_step (Or.inl rfl) (.anc a) hs

theorem plain_secs (ss : List Sec) (hok : ∀ x ∈ ss, x.ok = true) : ∀ l ∈ ss.map Sec.lseg, Plain '.' l := by
  intro l hl
  obtain ⟨x, hx, rfl⟩ := List.mem_map.mp hl
  exact plain_sec x (hok x hx)

theorem seg_lsegs (ss : List Sec) : (ss.map Sec.lseg).map (LSeg.seg true) = ss.map Sec.seg := by
  rw [List.map_map]
  exact List.map_congr_left (fun x _ => lseg_seg x)

theorem joinText_lsegs (s : Sec) (r : List Sec) :
    joinText ((s :: r).map Sec.mtext) = s.mtext ++ joinFrom '.' (r.map Sec.lseg) := by
  have : ∀ r : List Sec, (r.map Sec.mtext).flatMap (fun x => '.' :: x) = joinFrom '.' (r.map Sec.lseg) := by
    intro r
    induction r with
    | nil => rfl
    | cons x xs ih => simp only [List.map_cons, List.flatMap_cons, joinFrom, ih, mtext_lseg, List.cons_append]
  simp only [List.map_cons, joinText, this]

/-! ## 3. parse → `render` → parse -/

theorem plain_wf_all : ∀ (L : List LSeg), (∀ l ∈ L, Plain '.' l) → wfFromL '.' false L :=
  fun L h => (plain_wfFrom L h).1

theorem remarkT_secToks (t : Str) : remarkT '.' (secToks '.' t) = secToks '.' t := by
  cases t with
  | nil => rfl
  | cons c r =>
    -- a key symbol is special already: `remarkT_tokenize` on the one character
    have h1 := remarkT_tokenize '.' [c]
    simp only [remarkT, tokenize, List.map_cons, List.map_nil, markAll, List.cons.injEq, Prod.mk.injEq, and_true] at h1
    show markAll _ _ :: remarkT '.' (tokenize '.' r) = _
    rw [remarkT_tokenize, markAll, Bool.or_right_comm, h1]
    rfl

/-- the first character of the rendering of a first section in dot notation is not `/` -/
theorem remark1_hd (s : Sec) (hs : s.ok = true) :
    ∃ ch k, (remark1 '.' false s.lseg).text '.' false = ch :: k ∧ ch ≠ '/' := by
  cases s with
  | key t =>
    rw [show remark1 '.' false (Sec.key t).lseg = (Sec.key t).lseg from congrArg LSeg.key (remarkT_secToks t)]
    exact (plain_sec _ hs).hd
  | idx i => exact ⟨'[', _, rfl, by decide⟩
  | anc a => exact ⟨'&', _, rfl, by decide⟩

/-- **The stringifier's text of the unescaped segments of good steps, in either notation, is not empty
and parses back — separator inferred — to the segments of the steps.** -/
theorem render_plain (f' : Bool) (s : Sec) (r : List Sec) (hok : ∀ x ∈ s :: r, x.ok = true) :
    let S := render f' (((s :: r).map Sec.lseg).map (LSeg.seg false))
    parse true S = .ok ((s :: r).map Sec.seg) ∧ S ≠ [] := by
  intro S
  have hp := plain_secs _ hok
  have hok' : ∀ x ∈ (s :: r).map Sec.lseg, RenderOK x := fun x hx => (hp x hx).ok
  have hnt : ∀ x ∈ ((s :: r).map Sec.lseg).tail, x.isTop = false := fun x hx => (hp x (List.mem_of_mem_tail hx)).nt
  have hnb : ∀ x ∈ ((s :: r).map Sec.lseg).head?, x.NB := fun x hx => (hp x (List.mem_of_mem_head? hx)).nb
  obtain ⟨hS, -, hn1⟩ := render_texts f' _ (plain_wf_all _ hp) hok' hnt hnb
  have hS : S = _ := hS
  have hinf : inferFslash S = f' := by
    unfold inferFslash
    rw [hS, hn1]
    cases f' with
    | true => simp [textAll]
    | false =>
      obtain ⟨ch, k, ht, hc⟩ := remark1_hd s (hok s List.mem_cons_self)
      simp [remarkFrom, textAll, textFrom, sepOf, ht, hc]
  have hparse : parse true S = .ok ((s :: r).map Sec.seg) := by
    rw [parse, hinf]
    exact (render_parse f' _ (plain_wf_all _ hp) hok' hnt hnb).trans (congrArg _ (seg_lsegs _))
  exact ⟨hparse, fun h => by rw [h] at hparse; cases hparse⟩

/-! ## 4. `str(result.path)` -/


/-- the raw text of a non-empty list of good steps: normal form, dot notation, and its unescaped
segments -/
theorem raw_steps (s : Sec) (r : List Sec) (hok : ∀ x ∈ s :: r, x.ok = true) :
    let t := joinText ((s :: r).map Sec.mtext)
    accObj ((s :: r).map Sec.mtext) = PathObj.new t ∧ normOriginal t = t ∧
    inferSep t = .dot ∧
    parseWith false false t = .ok (((s :: r).map Sec.lseg).map (LSeg.seg false)) := by
  intro t
  have hpl := plain_secs (s :: r) hok
  have hps : Plain '.' s.lseg := hpl _ List.mem_cons_self
  obtain ⟨ch, k, hch, hc⟩ := hps.hd
  have hm : s.mtext = ch :: k := (mtext_lseg s).trans hch
  have hsn : normOriginal s.mtext = s.mtext := by
    rw [mtext_lseg]
    exact normOriginal_of_nonblank (text_nonblank _ hps.nb)
  have ht : t = s.mtext ++ joinFrom '.' (r.map Sec.lseg) := joinText_lsegs s r
  have hn : normOriginal t = t := by
    rw [ht]
    exact normOriginal_append _ hsn (by rw [hm]; exact List.cons_ne_nil _ _)
  refine ⟨accObj_eq s.mtext (r.map Sec.mtext) hsn ⟨ch, k, hm, hc⟩, hn, ?_, ?_⟩
  · rw [ht, hm]
    exact if_neg hc
  · refine parseWith_texts_join false false [s.lseg] (r.map Sec.lseg) (plain_wf_all _ hpl)
      (List.cons_ne_nil _ _) (fun l hl => ?_) t ?_ hn
    · obtain ⟨x, _, rfl⟩ := List.mem_map.mp hl
      cases x <;> rfl
    · rw [ht, mtext_lseg]
      exact congrArg (· ++ _) (List.append_nil _).symm

/-- `str()` of the path accumulated for a non-empty list of good steps is the rendering of its
unescaped segments -/
theorem reported_render (c : Ctx) (s : Sec) (r : List Sec) (hpath : c.path = (s :: r).map Sec.mtext)
    (hok : ∀ x ∈ s :: r, x.ok = true) :
    reported c = .ok (render false (((s :: r).map Sec.lseg).map (LSeg.seg false))) := by
  obtain ⟨hacc, hn, hs, hu⟩ := raw_steps s r hok
  rw [reported, hpath, hacc]
  exact printed_of false _ _ hn (by rw [hs]; rfl) hu

/-- … and after `path.separator = …` it is their rendering in the chosen notation -/
theorem reportedAs_render (f' : Bool) (c : Ctx) (s : Sec) (r : List Sec)
    (hpath : c.path = (s :: r).map Sec.mtext) (hok : ∀ x ∈ s :: r, x.ok = true) :
    reportedAs f' c = .ok (render f' (((s :: r).map Sec.lseg).map (LSeg.seg false))) := by
  obtain ⟨hacc, hn, hs, hu⟩ := raw_steps s r hok
  have h3 : ¬ render f' (((s :: r).map Sec.lseg).map (LSeg.seg false)) = [] :=
    (render_plain f' s r hok).2
  rw [reportedAs, hpath, hacc]
  cases f' <;>
    simp only [PathObj.setSep, PathObj.new, PathObj.setOriginal, hn, PathObj.unescaped,
      PathObj.parseObj, PathObj.getSep, hs, SepOpt.isFslash, ne_eq, not_true_eq_false,
      ↓reduceIte, Bool.false_eq_true, reduceCtorEq, hu, strOf, PathObj.str, decide_false, decide_true,
      h3, not_false_eq_true]

/-- **`str(result.path)` parses to the segments of the steps.**  For a path whose sections are those
of the steps `ss` (all expressible): `str()` succeeds, and its text — separator inferred, as
`YAMLPath(text)` does — parses to one segment per step: KEY `t`, INDEX `i`, ANCHOR `a`. -/
theorem reported_steps (c : Ctx) (ss : List Sec) (hpath : c.path = ss.map Sec.mtext)
    (hok : ∀ x ∈ ss, x.ok = true) :
    c.path = ss.map Sec.text ∧
    ∃ S, reported c = .ok S ∧ parse true S = .ok (ss.map Sec.seg) := by
  refine ⟨by rw [hpath]; exact List.map_congr_left (fun x hx => mtext_eq x (hok x hx)), ?_⟩
  cases ss with
  | nil =>
    refine ⟨[], ?_, by decide⟩
    simp only [reported, hpath, List.map_nil, accObj_nil]
    decide
  | cons s r => exact ⟨_, reported_render c s r hpath hok, (render_plain false s r hok).1⟩

/-- **The same after `result.path.separator = FSLASH` (or `DOT`)**: the text `str()` then returns —
the stringifier's rendering in the chosen notation — parses, separator inferred, to the segments of
the steps. -/
theorem reportedAs_steps (f' : Bool) (c : Ctx) (ss : List Sec) (hpath : c.path = ss.map Sec.mtext)
    (hok : ∀ x ∈ ss, x.ok = true) :
    ∃ S, reportedAs f' c = .ok S ∧ parse true S = .ok (ss.map Sec.seg) := by
  cases ss with
  | nil =>
    simp only [reportedAs, hpath, List.map_nil, accObj_nil]
    cases f'
    · exact ⟨[], rfl, by decide⟩
    · exact ⟨['/'], rfl, by decide⟩
  | cons s r =>
    exact ⟨_, reportedAs_render f' c s r hpath hok, (render_plain f' s r hok).1⟩

end Ypv.Acc
