import Ypv.Model.Compare
/-!
# Lemmas about the text primitives of `Model/Compare.lean`

The recursive Python-style primitives (`strLt`, `isPrefix`, `pyEndsWith`, `pyContains`) coincide with
the notions of core Lean the C12 specification is written in: the order of `List Char` by code
points, and the prefix / suffix / infix relations on lists.  `decCmp` compares the denoted decimals.
-/
namespace Ypv

theorem yieldIf_eq_bne (inv hit : Bool) : yieldIf inv hit = (hit != inv) := by
  cases inv <;> cases hit <;> rfl

theorem char_lt_iff (a b : Char) : a < b ↔ a.toNat < b.toNat := by
  rw [Char.lt_def, UInt32.lt_iff_toNat_lt]; rfl

theorem char_toNat_inj {a b : Char} (h : a.toNat = b.toNat) : a = b :=
  Char.ext (UInt32.toNat_inj.mp h)

/-- `strLt` is the lexicographic order of core Lean on lists of code points. -/
theorem strLt_iff (a b : Str) : strLt a b = true ↔ a < b := by
  induction a generalizing b with
  | nil => cases b <;> simp [strLt]
  | cons a as ih =>
    cases b with
    | nil => simp [strLt]
    | cons b bs =>
      unfold strLt
      rw [List.cons_lt_cons_iff, char_lt_iff]
      by_cases h1 : a.toNat < b.toNat
      · simp [h1]
      · by_cases h2 : b.toNat < a.toNat
        · have hne : a ≠ b := by intro e; subst e; omega
          simp [h1, h2, hne]
        · have heq : a = b := char_toNat_inj (by omega)
          simp [heq, ih bs]

/-- `strLe` is core's `≤` on lists of code points (`a ≤ b` is `¬ b < a` there). -/
theorem strLe_iff_le (a b : Str) : strLe a b = true ↔ a ≤ b := by
  rw [strLe, Bool.not_eq_true', ← Bool.not_eq_true, strLt_iff, List.not_lt]

/-- `!strLt b a` is "less than or equal". -/
theorem strLe_iff (a b : Str) : strLe a b = true ↔ (a < b ∨ a = b) := by
  rw [strLe_iff_le, List.le_iff_lt_or_eq]

theorem strLe_refl (a : Str) : strLe a a = true := (strLe_iff_le a a).mpr (List.le_refl a)

theorem strLe_total (a b : Str) : strLe a b = true ∨ strLe b a = true := by
  rw [strLe_iff_le, strLe_iff_le]; exact List.le_total a b

theorem strLe_trans (a b c : Str) (h1 : strLe a b = true) (h2 : strLe b c = true) : strLe a c = true := by
  rw [strLe_iff_le] at *; exact List.le_trans h1 h2

theorem strLe_antisymm_iff (a b : Str) : (a == b) = (strLe a b && strLe b a) := by
  rw [Bool.eq_iff_iff, beq_iff_eq, Bool.and_eq_true, strLe_iff_le, strLe_iff_le]
  exact ⟨fun h => h ▸ ⟨List.le_refl a, List.le_refl a⟩, fun h => List.le_antisymm h.1 h.2⟩

/-- The three outcomes of the specification's comparison of texts, with what `strLt` says each way. -/
theorem textCmp_cases (a b : Str) :
    (Spec.textCmp a b = .lt ∧ strLt a b = true ∧ strLt b a = false) ∨
    (Spec.textCmp a b = .eq ∧ strLt a b = false ∧ strLt b a = false) ∨
    (Spec.textCmp a b = .gt ∧ strLt a b = false ∧ strLt b a = true) := by
  have hf : ∀ x y : Str, ¬ x < y → strLt x y = false := fun x y h =>
    Bool.eq_false_iff.mpr fun h' => h ((strLt_iff x y).mp h')
  unfold Spec.textCmp
  by_cases h : a < b
  · exact .inl ⟨if_pos h, (strLt_iff a b).mpr h, hf b a (List.lt_asymm h)⟩
  · by_cases e : a = b
    · subst e
      exact .inr (.inl ⟨by rw [if_neg h, if_pos rfl], hf a a h, hf a a h⟩)
    · have h' : b < a := Decidable.byContradiction fun h' => e (List.le_antisymm (List.not_lt.mp h') (List.not_lt.mp h))
      exact .inr (.inr ⟨by rw [if_neg h, if_neg e], hf a b h, (strLt_iff b a).mpr h'⟩)

/-! ## Prefix, suffix and substring tests -/

theorem isPrefix_iff (p text : Str) : isPrefix p text = true ↔ p <+: text := by
  induction p generalizing text with
  | nil => simp [isPrefix]
  | cons a as ih =>
    cases text with
    | nil => simp [isPrefix]
    | cons b bs => rw [isPrefix, Bool.and_eq_true, decide_eq_true_eq, ih bs, List.cons_prefix_cons]

theorem pyEndsWith_iff (text p : Str) : pyEndsWith text p = true ↔ p <:+ text := by
  rw [pyEndsWith, isPrefix_iff, List.reverse_prefix]

theorem pyContains_iff (text p : Str) : pyContains text p = true ↔ p <:+: text := by
  induction text with
  | nil => rw [pyContains, List.isEmpty_iff, List.infix_nil]
  | cons c cs ih => rw [pyContains, Bool.or_eq_true, isPrefix_iff, ih, List.infix_cons_iff]

theorem hasPrefix_iff (text p : Str) : Spec.hasPrefix text p = true ↔ p <+: text := by
  rw [Spec.hasPrefix, beq_iff_eq, List.prefix_iff_eq_take]; exact eq_comm

theorem hasSuffix_iff (text p : Str) : Spec.hasSuffix text p = true ↔ p <:+ text := by
  rw [Spec.hasSuffix, Bool.and_eq_true, decide_eq_true_eq, beq_iff_eq, List.suffix_iff_eq_drop]
  exact ⟨fun h => h.2.symm, fun h => ⟨(List.suffix_iff_eq_drop.mpr h).length_le, h.symm⟩⟩

theorem hasSubstring_iff (text p : Str) : Spec.hasSubstring text p = true ↔ p <:+: text := by
  unfold Spec.hasSubstring
  rw [List.any_eq_true]
  constructor
  · rintro ⟨i, _, h⟩
    exact (List.prefix_iff_eq_take.mpr (beq_iff_eq.mp h).symm).isInfix.trans (List.drop_suffix i text).isInfix
  · rintro ⟨front, back, rfl⟩
    refine ⟨front.length, ?_, ?_⟩
    · rw [List.mem_range, List.length_append, List.length_append]; omega
    · rw [List.append_assoc, List.drop_left, List.take_left, beq_self_eq_true]

theorem pyStartsWith_eq_spec (text p : Str) : pyStartsWith text p = Spec.hasPrefix text p := by
  rw [Bool.eq_iff_iff, hasPrefix_iff]; exact isPrefix_iff p text

theorem pyEndsWith_eq_spec (text p : Str) : pyEndsWith text p = Spec.hasSuffix text p := by
  rw [Bool.eq_iff_iff, hasSuffix_iff, pyEndsWith_iff]

theorem pyContains_eq_spec (text p : Str) : pyContains text p = Spec.hasSubstring text p := by
  rw [Bool.eq_iff_iff, hasSubstring_iff, pyContains_iff]

/-! ## `decCmp` compares the denoted decimals: a total preorder, `.eq` an equivalence -/

theorem compare_mul_pos (a b c : Int) (hc : 0 < c) : compare (a * c) (b * c) = compare a b := by
  rcases Int.lt_trichotomy a b with h | h | h
  · rw [Int.compare_eq_lt.mpr (Int.mul_lt_mul_of_pos_right h hc), Int.compare_eq_lt.mpr h]
  · rw [h, Int.compare_eq_eq.mpr rfl, Int.compare_eq_eq.mpr rfl]
  · rw [Int.compare_eq_gt.mpr (Int.mul_lt_mul_of_pos_right h hc), Int.compare_eq_gt.mpr h]

/-- The scaled integer `m × 10^(e - L)` (for `L ≤ e`). -/
def scaled (m e L : Int) : Int := m * (10 : Int) ^ (e - L).toNat

theorem scaled_lower (m : Int) {e K L : Int} (h1 : K ≤ e) (h2 : L ≤ K) :
    scaled m e L = scaled m e K * (10 : Int) ^ (K - L).toNat := by
  have hs : e - L = e - K + (K - L) := by omega
  rw [scaled, scaled, Int.mul_assoc, ← Int.pow_add, hs,
    Int.toNat_add (Int.sub_nonneg.mpr h1) (Int.sub_nonneg.mpr h2)]

/-- `decCmp` may be computed at any common exponent below both. -/
theorem decCmp_common (m1 e1 m2 e2 L : Int) (h1 : L ≤ e1) (h2 : L ≤ e2) :
    decCmp m1 e1 m2 e2 = compare (scaled m1 e1 L) (scaled m2 e2 L) := by
  have hL : L ≤ min e1 e2 := Int.le_min.mpr ⟨h1, h2⟩
  rw [scaled_lower m1 (Int.min_le_left e1 e2) hL, scaled_lower m2 (Int.min_le_right e1 e2) hL]
  exact (compare_mul_pos _ _ _ (Int.pow_pos (by decide))).symm

theorem decCmp_refl (m e : Int) : decCmp m e m e = .eq := by
  rw [decCmp_common m e m e e (Int.le_refl _) (Int.le_refl _)]; exact Int.compare_eq_eq.mpr rfl

/-- `≤` on decimals. -/
def decLe (m1 e1 m2 e2 : Int) : Bool := decCmp m1 e1 m2 e2 != .gt

section
variable (m1 e1 m2 e2 : Int)

theorem decCmp_swap : decCmp m2 e2 m1 e1 = (decCmp m1 e1 m2 e2).swap := by
  rw [decCmp_common m2 e2 m1 e1 _ (Int.min_le_right e1 e2) (Int.min_le_left e1 e2),
    decCmp_common m1 e1 m2 e2 _ (Int.min_le_left e1 e2) (Int.min_le_right e1 e2)]
  exact Std.OrientedCmp.eq_swap

theorem decLe_iff (L : Int) (h1 : L ≤ e1) (h2 : L ≤ e2) :
    decLe m1 e1 m2 e2 = true ↔ scaled m1 e1 L ≤ scaled m2 e2 L := by
  rw [decLe, bne_iff_ne, Ne, decCmp_common m1 e1 m2 e2 L h1 h2, Int.compare_eq_gt, Int.not_lt]

theorem decLe_total : decLe m1 e1 m2 e2 = true ∨ decLe m2 e2 m1 e1 = true := by
  rw [decLe, decLe, decCmp_swap m1 e1 m2 e2]; cases decCmp m1 e1 m2 e2 <;> decide

theorem decLe_trans (m3 e3 : Int) (h12 : decLe m1 e1 m2 e2 = true) (h23 : decLe m2 e2 m3 e3 = true) :
    decLe m1 e1 m3 e3 = true := by
  obtain ⟨L, L1, L2, L3⟩ : ∃ L, L ≤ e1 ∧ L ≤ e2 ∧ L ≤ e3 :=
    ⟨min e1 (min e2 e3), Int.min_le_left .., Int.le_trans (Int.min_le_right ..) (Int.min_le_left ..),
      Int.le_trans (Int.min_le_right ..) (Int.min_le_right ..)⟩
  rw [decLe_iff _ _ _ _ L L1 L2] at h12
  rw [decLe_iff _ _ _ _ L L2 L3] at h23
  rw [decLe_iff _ _ _ _ L L1 L3]; exact Int.le_trans h12 h23

/-- The strict test of the `max`/`min` loop is the negation of `≤` … -/
theorem decCmp_gt_eq : (decCmp m1 e1 m2 e2 == .gt) = !decLe m1 e1 m2 e2 := by
  rw [decLe]; cases decCmp m1 e1 m2 e2 <;> rfl

theorem decCmp_lt_eq : (decCmp m1 e1 m2 e2 == .lt) = !decLe m2 e2 m1 e1 := by
  rw [decLe, decCmp_swap m1 e1 m2 e2]; cases decCmp m1 e1 m2 e2 <;> rfl

/-- … and its equality test is `≤` both ways. -/
theorem decCmp_eq_eq : (decCmp m1 e1 m2 e2 == .eq) = (decLe m1 e1 m2 e2 && decLe m2 e2 m1 e1) := by
  rw [decLe, decLe, decCmp_swap m1 e1 m2 e2]; cases decCmp m1 e1 m2 e2 <;> rfl

theorem decCmp_eq_trans (m3 e3 : Int) (h12 : decCmp m1 e1 m2 e2 = .eq) (h23 : decCmp m2 e2 m3 e3 = .eq) :
    decCmp m1 e1 m3 e3 = .eq := by
  rw [← beq_iff_eq, decCmp_eq_eq, Bool.and_eq_true] at h12 h23 ⊢
  exact ⟨decLe_trans _ _ _ _ _ _ h12.1 h23.1, decLe_trans _ _ _ _ _ _ h23.2 h12.2⟩

end

theorem decCmp_eq_symm (m1 e1 m2 e2 : Int) (h : decCmp m1 e1 m2 e2 = .eq) : decCmp m2 e2 m1 e1 = .eq := by
  rw [decCmp_swap m1 e1 m2 e2, h]; rfl

theorem decLe_int (i j : Int) : decLe i 0 j 0 = decide (i ≤ j) := by
  rw [Bool.eq_iff_iff, decLe_iff i 0 j 0 0 (Int.le_refl 0) (Int.le_refl 0), scaled, scaled, decide_eq_true_eq]
  simp only [Int.sub_self, Int.toNat_zero, Int.pow_zero, Int.mul_one]

end Ypv
