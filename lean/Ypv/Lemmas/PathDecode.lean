import Ypv.Lemmas.PathAcc
/-!
# Reading the step back from a path section

`Sec.ofText` decodes a section text (`[&name]`, `[i]`, escaped key text) into the step it denotes;
`ofText_mtext`: it inverts `Sec.mtext`.  With it the hypotheses of `path_reresolves` are decidable
predicates of the reported coordinates themselves (`c.path.map Sec.ofText`).
-/
namespace Ypv.Acc
open Ypv Ypv.Sim Ypv.Search.Rr

/-- drop the escape marks: `\c` ↦ `c` -/
def unesc : Str → Str
  | [] => []
  | [c] => [c]
  | c :: d :: r => if c = '\\' then d :: unesc r else c :: unesc (d :: r)

theorem unesc_bare (c : Char) (x : Str) (hc : c ≠ '\\') : unesc (c :: x) = c :: unesc x := by
  cases x with
  | nil => simp [unesc]
  | cons d r => simp [unesc, hc]

theorem unesc_tokText : ∀ (ts : List Tok), (∀ t ∈ ts, t.1 = true ∨ t.2 ≠ '\\') →
    unesc (tokText ts) = tokChars ts := by
  intro ts
  induction ts with
  | nil => exact fun _ => rfl
  | cons t ts ih =>
    obtain ⟨e, c⟩ := t
    intro h
    have ih := ih (fun t ht => h t (List.mem_cons_of_mem _ ht))
    cases e with
    | true =>
      show unesc ('\\' :: c :: tokText ts) = c :: tokChars ts
      rw [unesc, if_pos rfl, ih]
    | false =>
      have hc : c ≠ '\\' := (h (false, c) List.mem_cons_self).resolve_left Bool.false_ne_true
      show unesc (c :: tokText ts) = c :: tokChars ts
      rw [unesc_bare c _ hc, ih]

theorem secToks_nobs (t : Str) : ∀ u ∈ secToks '.' t, u.1 = true ∨ u.2 ≠ '\\' := by
  -- the backslash is special, so every backslash token is marked
  have key : ∀ (c : Char) (b : Bool), (special '.' c || b) = true ∨ c ≠ '\\' := fun c b => by
    by_cases hc : c = '\\'
    · exact Or.inl (hc ▸ rfl)
    · exact Or.inr hc
  intro u hu
  cases t with
  | nil => nomatch hu
  | cons c r =>
    rcases List.mem_cons.mp hu with rfl | hu
    · exact key c _
    · obtain ⟨x, _, rfl⟩ := List.mem_map.mp hu
      exact (Bool.or_false _ ▸ key x false :)

theorem unesc_escSection (t : Str) : unesc (escSection t) = t := by
  rw [escSection_toks, unesc_tokText _ (secToks_nobs t), tokChars_secToks]

/-- the step a section text denotes -/
def Sec.ofText : Str → Sec
  | '[' :: '&' :: r => .anc (unesc r.dropLast)
  | '[' :: r => match pyInt? r.dropLast with
    | some i => .idx i
    | none => .key []
  | sec => .key (unesc sec)

theorem escSection_head (t : Str) : (escSection t).head? ≠ some '[' := by
  rw [escSection_toks]
  cases t with
  | nil => exact fun h => nomatch h
  | cons c r =>
    show (Tok.text (special '.' c || (c == '/' && '.' != '/'), c) ++ tokText (tokenize '.' r)).head? ≠ _
    intro h
    cases hb : (special '.' c || (c == '/' && '.' != '/')) with
    | true =>
      rw [hb] at h
      exact absurd (Option.some.inj h) (by decide)
    | false =>
      rw [hb] at h
      -- an unescaped first character is not `[`, which is special
      cases Option.some.inj h
      cases hb

theorem ofText_key {t : Str} (h : t.head? ≠ some '[') : Sec.ofText t = .key (unesc t) := by
  unfold Sec.ofText
  split
  · exact absurd rfl h
  · exact absurd rfl h
  · rfl

/-- **`Sec.ofText` inverts the section text.** -/
theorem ofText_mtext (s : Sec) : Sec.ofText s.mtext = s := by
  cases s with
  | key t => exact (ofText_key (escSection_head t)).trans (congrArg Sec.key (unesc_escSection t))
  | idx i =>
    obtain ⟨d, k, hk⟩ := List.exists_cons_of_ne_nil (pyStrInt_ne_nil i)
    have hd : d ≠ '&' := by
      rintro rfl
      rcases pyStrInt_chars i '&' (hk ▸ List.mem_cons_self) with h | h <;> cases h
    show Sec.ofText ('[' :: (pyStrInt i ++ [']'])) = _
    rw [hk]
    unfold Sec.ofText
    split
    · rename_i h
      exact absurd (List.cons.inj (List.cons.inj h).2).1 hd
    · rename_i r _ h
      cases h
      rw [← hk, List.dropLast_concat, pyInt_pyStrInt]
    · rename_i _ h
      exact absurd rfl (h _)
  | anc a =>
    simp only [Sec.mtext, Eval.anchorSection, Sec.ofText]
    simp [unesc_escSection]

theorem ofText_map (ss : List Sec) : (ss.map Sec.mtext).map Sec.ofText = ss := by
  rw [List.map_map]
  conv => rhs; rw [← List.map_id ss]
  exact List.map_congr_left (fun s _ => ofText_mtext s)

end Ypv.Acc
