import Ypv.Spec.Edit
/-!
# Lemmas about deletion (C04): one positional removal after a set removal; the normalised address list
-/
namespace Ypv

/-- `disturbs b a`: deleting the node at `b` first changes what the address `a` refers to —
`b` is an elder sibling (or the same element, or an elder sibling of an ancestor) in a sequence. -/
def disturbs : Addr → Addr → Bool
  | r :: b', r' :: a' =>
    match b' with
    | [] => (match r, r' with
      | .idx m, .idx n => decide (m ≤ n)
      | _, _ => false)
    | _ :: _ => r == r' && disturbs b' a'
  | _, _ => false

/-- No address is disturbed by an address that is processed before it (= stands later in the list). -/
def NoDisturb (addrs : List Addr) : Prop := addrs.Pairwise (fun a b => disturbs b a = false)

theorem disturbs_nil_left (a : Addr) : disturbs [] a = false := by
  unfold disturbs; rfl

theorem mem_subAddrs {r : Ref} {S : List Addr} {t : Addr} : t ∈ subAddrs r S ↔ (r :: t) ∈ S := by
  unfold subAddrs
  rw [List.mem_filterMap]
  constructor
  · rintro ⟨a, ha, h⟩
    cases a with
    | nil => simp at h
    | cons r' t' =>
      simp only at h
      split at h
      · next heq => cases h; subst heq; exact ha
      · cases h
  · intro h
    exact ⟨r :: t, h, by simp⟩

theorem subAddrs_cons_same (r : Ref) (t : Addr) (S : List Addr) :
    subAddrs r ((r :: t) :: S) = t :: subAddrs r S := by
  simp [subAddrs]

theorem subAddrs_cons_ne {r r' : Ref} (h : r' ≠ r) (t : Addr) (S : List Addr) :
    subAddrs r ((r' :: t) :: S) = subAddrs r S := by
  simp [subAddrs, h]

theorem subAddrs_cons_irrel {r : Ref} {a : Addr} (h : ∀ t, a ≠ r :: t) (S : List Addr) :
    subAddrs r (a :: S) = subAddrs r S := by
  cases a with
  | nil => simp [subAddrs]
  | cons r' t => exact subAddrs_cons_ne (fun e => h t (congrArg (· :: t) e)) t S

theorem disturbs_sub {r : Ref} {S : List Addr} {rest : Addr}
    (h : ∀ b ∈ S, disturbs b (r :: rest) = false) : ∀ b' ∈ subAddrs r S, disturbs b' rest = false := by
  intro b' hb'
  have hb := h (r :: b') (mem_subAddrs.mp hb')
  cases b' with
  | nil => exact disturbs_nil_left _
  | cons x xs =>
    unfold disturbs at hb
    simpa using hb

/-! ### Addresses that do not concern a child list -/

theorem removeAllList_cons (c : Node) (cs : List Node) (i : Nat) (S : List Addr) :
    removeAllList (c :: cs) i S = if S.contains [.idx i] then removeAllList cs (i + 1) S
      else c.removeAll (subAddrs (.idx i) S) :: removeAllList cs (i + 1) S := rfl

theorem removeAllEntries_cons (k : Key) (c : Node) (es : List (Key × Node)) (S : List Addr) :
    removeAllEntries ((k, c) :: es) S = if S.contains [.key k] then removeAllEntries es S
      else (k, c.removeAll (subAddrs (.key k) S)) :: removeAllEntries es S := rfl

theorem contains_cons_of_ne {a b : Addr} (h : b ≠ a) (S : List Addr) : (a :: S).contains b = S.contains b := by
  rw [List.contains_cons, beq_false_of_ne h, Bool.false_or]

theorem contains_single_cons_ne {r r' : Ref} (h : r' ≠ r) (t : Addr) (S : List Addr) :
    ((r' :: t) :: S).contains [r] = S.contains [r] :=
  contains_cons_of_ne (fun e => h (List.cons.inj e).1.symm) S

theorem removeAllList_cons_irrel (cs : List Node) (i : Nat) (a : Addr) (S : List Addr)
    (h : ∀ k t, i ≤ k → a ≠ .idx k :: t) : removeAllList cs i (a :: S) = removeAllList cs i S := by
  induction cs generalizing i with
  | nil => rfl
  | cons c cs ih =>
    rw [removeAllList_cons, removeAllList_cons, contains_cons_of_ne (h i [] (Nat.le_refl i)).symm,
      subAddrs_cons_irrel fun t => h i t (Nat.le_refl i), ih (i + 1) fun k t hk => h k t (Nat.le_of_succ_le hk)]

theorem removeAllEntries_cons_irrel (es : List (Key × Node)) (a : Addr) (S : List Addr)
    (h : ∀ k t, a ≠ .key k :: t) : removeAllEntries es (a :: S) = removeAllEntries es S := by
  induction es with
  | nil => rfl
  | cons e es ih =>
    rw [removeAllEntries_cons, removeAllEntries_cons, contains_cons_of_ne (h e.1 []).symm,
      subAddrs_cons_irrel (h e.1), ih]

theorem removeAll_cons_nil (d : Node) (S : List Addr) : d.removeAll ([] :: S) = d.removeAll S := by
  cases d with
  | scalar a v => rfl
  | set a ms =>
    exact congrArg (Node.set a) (List.filter_congr fun m _ =>
      congrArg (!·) (contains_cons_of_ne (List.cons_ne_nil _ _) S))
  | seq a items => exact congrArg (Node.seq a) (removeAllList_cons_irrel items 0 [] S fun _ _ _ => nofun)
  | map a es => exact congrArg (Node.map a) (removeAllEntries_cons_irrel es [] S fun _ _ => nofun)

/-! ### One positional deletion after a set removal is a set removal -/

theorem not_mem_of_disturbs_idx {S : List Addr} {m n : Nat} {rest : Addr} (hmn : m ≤ n)
    (h : ∀ b ∈ S, disturbs b (.idx n :: rest) = false) : S.contains [Ref.idx m] = false := by
  rw [List.contains_eq_mem, decide_eq_false_iff_not]
  intro hm
  have hd : decide (m ≤ n) = false := h _ hm
  exact of_decide_eq_false hd hmn

mutual
theorem removeAt_removeAll : (d : Node) → (S : List Addr) → (a : Addr) →
    (∀ b ∈ S, disturbs b a = false) → (d.removeAll S).removeAt a = d.removeAll (a :: S)
  | d, S, [] => fun _ =>
    (show (d.removeAll S).removeAt [] = d.removeAll S by cases d <;> rfl).trans (removeAll_cons_nil d S).symm
  | .scalar an v, S, _ :: _ => fun _ => rfl
  | .set an ms, S, r :: rest => fun _ => by
    -- only `[.member k]` names a member; then both sides filter `ms` by the same test
    by_cases hk : ∃ k, r = .member k ∧ rest = []
    · obtain ⟨k, rfl, rfl⟩ := hk
      show Node.set an ((ms.filter fun m => !(S.contains [.member m])).filter fun m => !(m == k)) = _
      rw [List.filter_filter]
      refine congrArg (Node.set an) (List.filter_congr fun m _ => ?_)
      rw [List.contains_cons, Bool.not_or]
      congr 2
      rw [Bool.eq_iff_iff, beq_iff_eq, beq_iff_eq, List.cons.injEq, Ref.member.injEq, and_iff_left rfl]
    · have hr : ∀ ms', (Node.set an ms').removeAt (r :: rest) = .set an ms' := fun ms' => by
        cases r with
        | member k => cases rest with
          | nil => exact absurd ⟨k, rfl, rfl⟩ hk
          | cons _ _ => rfl
        | idx _ => rfl
        | key _ => rfl
      refine (hr _).trans (congrArg (Node.set an) (List.filter_congr fun m _ => ?_))
      rw [contains_cons_of_ne fun e => hk ⟨m, (List.cons.inj e).1.symm, (List.cons.inj e).2.symm⟩]
  | .seq an items, S, r :: rest => fun h => by
    cases r with
    | idx n =>
      have := removeAtList_removeAllList items 0 n S rest (by rw [Nat.zero_add]; exact h)
      rw [Nat.zero_add] at this
      exact congrArg (Node.seq an) this
    | key _ | member _ =>
      exact congrArg (Node.seq an) (removeAllList_cons_irrel _ _ _ _ fun _ _ _ e => Ref.noConfusion (List.cons.inj e).1).symm
  | .map an es, S, r :: rest => fun h => by
    cases r with
    | key k => exact congrArg (Node.map an) (removeAtEntries_removeAllEntries es k S rest h)
    | idx _ | member _ =>
      exact congrArg (Node.map an) (removeAllEntries_cons_irrel _ _ _ fun _ _ e => Ref.noConfusion (List.cons.inj e).1).symm
theorem removeAtList_removeAllList : (cs : List Node) → (i n : Nat) → (S : List Addr) → (rest : Addr) →
    (∀ b ∈ S, disturbs b (.idx (i + n) :: rest) = false) →
    removeAtList (removeAllList cs i S) n rest = removeAllList cs i ((.idx (i + n) :: rest) :: S)
  | [] => fun i n S rest _ => rfl
  | c :: cs => fun i n S rest h => by
    have hni : S.contains [Ref.idx i] = false := not_mem_of_disturbs_idx (Nat.le_add_right _ _) h
    cases n with
    | zero =>
      -- position `i` itself survives `S`; the later positions do not see the new address
      have h : ∀ b ∈ S, disturbs b (.idx i :: rest) = false := h
      have htail : removeAllList cs (i + 1) ((Ref.idx i :: rest) :: S) = removeAllList cs (i + 1) S :=
        removeAllList_cons_irrel _ _ _ _ fun k t hk e => absurd (Ref.idx.inj (List.cons.inj e).1) (Nat.ne_of_lt hk)
      rw [Nat.add_zero, removeAllList_cons, hni, if_neg Bool.false_ne_true, removeAllList_cons, htail]
      cases rest with
      | nil => rw [List.contains_cons, BEq.rfl, Bool.true_or, if_pos rfl]; rfl
      | cons r t =>
        rw [contains_cons_of_ne (fun e => List.cons_ne_nil _ _ (List.cons.inj e).2.symm), hni,
          if_neg Bool.false_ne_true, subAddrs_cons_same, ← removeAt_removeAll c _ (r :: t) (disturbs_sub h)]
        rfl
    | succ n =>
      have hne : Ref.idx (i + (n + 1)) ≠ Ref.idx i :=
        fun e => absurd (Ref.idx.inj e) (Nat.ne_of_gt (Nat.lt_add_of_pos_right (Nat.succ_pos n)))
      have e1 : i + 1 + n = i + (n + 1) := Nat.add_right_comm i 1 n
      have ih := removeAtList_removeAllList cs (i + 1) n S rest (by rw [e1]; exact h)
      rw [e1] at ih
      rw [removeAllList_cons, removeAllList_cons, hni, contains_single_cons_ne hne, hni, subAddrs_cons_ne hne, ← ih]
      rfl
theorem removeAtEntries_removeAllEntries : (es : List (Key × Node)) → (k : Key) → (S : List Addr) →
    (rest : Addr) → (∀ b ∈ S, disturbs b (.key k :: rest) = false) →
    removeAtEntries (removeAllEntries es S) k rest = removeAllEntries es ((.key k :: rest) :: S)
  | [] => fun k S rest _ => rfl
  | (k', c) :: es => fun k S rest h => by
    have ih := removeAtEntries_removeAllEntries es k S rest h
    rw [removeAllEntries_cons, removeAllEntries_cons, ← ih]
    by_cases hk : k' = k
    · subst hk
      cases rest with
      | nil =>
        -- the entry goes, whether `S` names it already or not
        rw [List.contains_cons, BEq.rfl, Bool.true_or, if_pos rfl]
        cases S.contains [Ref.key k']
        · exact if_pos rfl
        · rfl
      | cons r t =>
        rw [contains_cons_of_ne (fun e => List.cons_ne_nil _ _ (List.cons.inj e).2.symm), subAddrs_cons_same,
          ← removeAt_removeAll c _ (r :: t) (disturbs_sub h)]
        cases S.contains [Ref.key k']
        · exact if_pos rfl
        · rfl
    · have hne : Ref.key k ≠ Ref.key k' := fun e => hk (Ref.key.inj e).symm
      rw [contains_single_cons_ne hne, subAddrs_cons_ne hne]
      cases S.contains [Ref.key k']
      · cases rest <;> exact if_neg hk
      · rfl
end

/-! ### Removing nothing; removal depends on the address set only -/

mutual
theorem removeAll_nil : (d : Node) → d.removeAll [] = d
  | .scalar _ _ => rfl
  | .set a _ => congrArg (Node.set a) (List.filter_eq_self.mpr fun _ _ => rfl)
  | .seq a items => congrArg (Node.seq a) (removeAllList_nil items 0)
  | .map a es => congrArg (Node.map a) (removeAllEntries_nil es)
theorem removeAllList_nil : (cs : List Node) → (i : Nat) → removeAllList cs i [] = cs
  | [] => fun _ => rfl
  | c :: cs => fun i => congr (congrArg List.cons (removeAll_nil c)) (removeAllList_nil cs (i + 1))
theorem removeAllEntries_nil : (es : List (Key × Node)) → removeAllEntries es [] = es
  | [] => rfl
  | (k, c) :: es => congr (congrArg (fun x => List.cons (k, x)) (removeAll_nil c)) (removeAllEntries_nil es)
end

theorem subAddrs_mem_congr {S S' : List Addr} (h : ∀ x, x ∈ S ↔ x ∈ S') (r : Ref) :
    ∀ x, x ∈ subAddrs r S ↔ x ∈ subAddrs r S' := by
  intro x; rw [mem_subAddrs, mem_subAddrs]; exact h _

theorem contains_congr {S S' : List Addr} (h : ∀ x, x ∈ S ↔ x ∈ S') (y : Addr) :
    S.contains y = S'.contains y := by
  rw [List.contains_eq_mem, List.contains_eq_mem, decide_eq_decide]; exact h y

mutual
theorem removeAll_congr : (d : Node) → (S S' : List Addr) → (∀ x, x ∈ S ↔ x ∈ S') →
    d.removeAll S = d.removeAll S'
  | .scalar _ _ => fun _ _ _ => rfl
  | .set a _ => fun _ _ h =>
    congrArg (Node.set a) (List.filter_congr fun _ _ => congrArg (!·) (contains_congr h _))
  | .seq a items => fun S S' h => congrArg (Node.seq a) (removeAllList_congr items 0 S S' h)
  | .map a es => fun S S' h => congrArg (Node.map a) (removeAllEntries_congr es S S' h)
theorem removeAllList_congr : (cs : List Node) → (i : Nat) → (S S' : List Addr) → (∀ x, x ∈ S ↔ x ∈ S') →
    removeAllList cs i S = removeAllList cs i S'
  | [] => fun _ _ _ _ => rfl
  | c :: cs => fun i S S' h => by
    rw [removeAllList_cons, removeAllList_cons, contains_congr h,
      removeAll_congr c _ _ (subAddrs_mem_congr h (.idx i)), removeAllList_congr cs (i + 1) S S' h]
theorem removeAllEntries_congr : (es : List (Key × Node)) → (S S' : List Addr) → (∀ x, x ∈ S ↔ x ∈ S') →
    removeAllEntries es S = removeAllEntries es S'
  | [] => fun _ _ _ => rfl
  | (k, c) :: es => fun S S' h => by
    rw [removeAllEntries_cons, removeAllEntries_cons, contains_congr h,
      removeAll_congr c _ _ (subAddrs_mem_congr h (.key k)), removeAllEntries_congr es S S' h]
end

/-! ### Normalisation: distinct, deeper parents first, higher indexes first -/

theorem lastIdx_cons_cons (r x : Ref) (xs : Addr) : lastIdx (r :: x :: xs) = lastIdx (x :: xs) := by
  cases r <;> rfl

theorem keyLt_iff {a b : Addr} :
    keyLt a b = true ↔ a.length < b.length ∨ (a.length = b.length ∧ lastIdx a < lastIdx b) := by
  simp only [keyLt, Bool.or_eq_true, Bool.and_eq_true, decide_eq_true_eq, beq_iff_eq]

theorem keyLt_cons_cons (r r' x y : Ref) (xs ys : Addr) :
    keyLt (r :: x :: xs) (r' :: y :: ys) = keyLt (x :: xs) (y :: ys) := by
  rw [Bool.eq_iff_iff, keyLt_iff, keyLt_iff, lastIdx_cons_cons, lastIdx_cons_cons, List.length_cons (a := r),
    List.length_cons (a := r'), Nat.add_lt_add_iff_right, Nat.add_right_cancel_iff]

theorem disturbs_key : ∀ (b a : Addr), disturbs b a = true → keyLt b a = true ∨ a = b := by
  intro b
  induction b with
  | nil => exact fun a h => Bool.noConfusion ((disturbs_nil_left a).symm.trans h)
  | cons r b' ih =>
    intro a h
    cases a with
    | nil => exact Bool.noConfusion h
    | cons r' a' =>
      cases b' with
      | nil =>
        cases r with
        | idx m => cases r' with
          | idx n =>
            cases a' with
            | nil =>
              rcases Nat.lt_or_eq_of_le (of_decide_eq_true h) with hlt | rfl
              · exact .inl (keyLt_iff.mpr (.inr ⟨rfl, hlt⟩))
              · exact .inr rfl
            | cons y ys => exact .inl (keyLt_iff.mpr (.inl (Nat.succ_lt_succ (Nat.succ_pos _))))
          | _ => exact Bool.noConfusion h
        | _ => exact Bool.noConfusion h
      | cons x xs =>
        have h' : (r == r' && disturbs (x :: xs) a') = true := h
        rw [Bool.and_eq_true, beq_iff_eq] at h'
        obtain ⟨rfl, hd⟩ := h'
        cases a' with
        | nil => exact Bool.noConfusion hd
        | cons y ys =>
          rcases ih _ hd with hk | he
          · exact .inl ((keyLt_cons_cons ..).trans hk)
          · exact .inr (congrArg _ he)

def KeyOrd (a b : Addr) : Prop := keyLt b a = false ∧ a ≠ b

theorem keyLt_trans_false {x a b : Addr} (h1 : keyLt a b = true) (h2 : keyLt x b = false) : keyLt x a = false := by
  rw [← Bool.not_eq_true, keyLt_iff] at h2 ⊢; rw [keyLt_iff] at h1
  -- `x < a < b` in the lexicographic order gives `x < b`
  rintro (hl | ⟨he, hi⟩)
  · rcases h1 with h1 | ⟨e, _⟩
    · exact h2 (.inl (Nat.lt_trans hl h1))
    · exact h2 (.inl (e ▸ hl))
  · rcases h1 with h1 | ⟨e, h1⟩
    · exact h2 (.inl (he ▸ h1))
    · exact h2 (.inr ⟨he.trans e, Nat.lt_trans hi h1⟩)

theorem keyLt_asymm {a b : Addr} (h : keyLt a b = true) : keyLt b a = false :=
  keyLt_trans_false h (by simp only [keyLt, Nat.lt_irrefl, decide_false, Bool.and_false, Bool.or_false])

theorem mem_insertAddr {a x : Addr} {l : List Addr} : x ∈ insertAddr a l ↔ x = a ∨ x ∈ l := by
  induction l with
  | nil => exact List.mem_cons
  | cons b bs ih =>
    unfold insertAddr
    split
    · exact List.mem_cons
    · rw [List.mem_cons, ih, List.mem_cons]; exact or_left_comm

theorem mem_sortAddrs {x : Addr} {l : List Addr} : x ∈ sortAddrs l ↔ x ∈ l := by
  induction l with
  | nil => exact Iff.rfl
  | cons a as ih => exact mem_insertAddr.trans ((or_congr_right ih).trans List.mem_cons.symm)

theorem mem_dedupAddrs {x : Addr} {l : List Addr} : x ∈ dedupAddrs l ↔ x ∈ l := by
  induction l with
  | nil => exact Iff.rfl
  | cons a as ih =>
    unfold dedupAddrs
    split
    · next hc =>
      rw [ih, List.mem_cons]
      exact ⟨.inr, fun h => h.elim (fun e => e ▸ List.contains_iff_mem.mp hc) id⟩
    · rw [List.mem_cons, List.mem_cons, ih]

theorem nodup_dedupAddrs (l : List Addr) : (dedupAddrs l).Pairwise (· ≠ ·) := by
  induction l with
  | nil => exact .nil
  | cons a as ih =>
    unfold dedupAddrs
    split
    · exact ih
    · next hc =>
      exact List.pairwise_cons.mpr
        ⟨fun x hx heq => hc (List.contains_iff_mem.mpr (heq ▸ mem_dedupAddrs.mp hx)), ih⟩

theorem keyOrd_insertAddr (a : Addr) (l : List Addr) (hn : a ∉ l) (h : l.Pairwise KeyOrd) :
    (insertAddr a l).Pairwise KeyOrd := by
  induction l with
  | nil => exact List.pairwise_singleton _ _
  | cons b bs ih =>
    have hp := List.pairwise_cons.mp h
    have hab : a ≠ b := fun e => hn (e ▸ List.mem_cons_self)
    have hnb : a ∉ bs := fun e => hn (List.mem_cons_of_mem _ e)
    unfold insertAddr
    split
    · next hlt =>
      rw [List.pairwise_cons]
      refine ⟨?_, h⟩
      intro x hx
      rcases List.mem_cons.mp hx with hx | hx
      · subst hx; exact ⟨keyLt_asymm hlt, hab⟩
      · exact ⟨keyLt_trans_false hlt (hp.1 x hx).1, fun e => hnb (e ▸ hx)⟩
    · next hlt =>
      rw [List.pairwise_cons]
      refine ⟨?_, ih hnb hp.2⟩
      intro x hx
      rcases mem_insertAddr.mp hx with hx | hx
      · subst hx; exact ⟨Bool.eq_false_iff.mpr hlt, fun e => hab e.symm⟩
      · exact hp.1 x hx

theorem keyOrd_sortAddrs (l : List Addr) (h : l.Pairwise (· ≠ ·)) : (sortAddrs l).Pairwise KeyOrd := by
  induction l with
  | nil => exact .nil
  | cons a as ih =>
    have hp := List.pairwise_cons.mp h
    exact keyOrd_insertAddr a _ (fun hm => hp.1 a (mem_sortAddrs.mp hm) rfl) (ih hp.2)

end Ypv
