import Ypv.Spec.MergeAt
import Ypv.Lemmas.EditCreate
/-!
# Lemmas for C11: writing a node back at an address, the loop over the targets, path creation,
`mergeAt` / `mergeCreate` by cases, the creation on a Scalar leaf as the C09 creation
(`mergeat_creation_is_c09`), rule paths re-based on the merge path (`stripPrefix_append`)
-/
namespace Ypv.MergeAt
open Ypv Ypv.Merge

/-! ## `Apart`: neither address lies under the other -/

theorem Apart.symm {a b : Addr} (h : Apart a b) : Apart b a := ⟨h.2, h.1⟩

theorem Apart.nil_right {a : Addr} (h : Apart a []) : False := h.2 List.nil_prefix

theorem Apart.of_cons {r : Ref} {a b : Addr} (h : Apart (r :: a) (r :: b)) : Apart a b :=
  ⟨fun hp => h.1 ((List.prefix_cons_inj r).2 hp), fun hp => h.2 ((List.prefix_cons_inj r).2 hp)⟩

/-! ## One level: `setChild` against `child?` -/

theorem get?_of_child {n c : Node} {r : Ref} (h : n.child? r = some c) (t : Addr) : n.get? (r :: t) = c.get? t := by
  rw [get?_cons, h]

theorem lookup_setKey (k k' : Key) (v : Node) (es : List (Key × Node)) :
    (setKey k v es).lookup k' = if k' = k then (es.lookup k').map (fun _ => v) else es.lookup k' := by
  induction es with
  | nil => simp only [setKey, List.lookup_nil, Option.map_none, ite_self]
  | cons e rest ih =>
    obtain ⟨k0, v0⟩ := e
    by_cases h0 : k0 = k
    · subst h0
      by_cases h : k' = k0
      · subst h; simp only [setKey, if_true, List.lookup_cons_self, Option.map_some]
      · simp only [setKey, if_true, if_neg h, lookup_cons_ne (Ne.symm h)]
    · rw [setKey, if_neg h0]
      by_cases h : k' = k0
      · subst h; simp only [List.lookup_cons_self, Option.map_some, if_neg h0]
      · rw [lookup_cons_ne (Ne.symm h), lookup_cons_ne (Ne.symm h), ih]

theorem child?_setChild_same {n : Node} {r : Ref} {c c' : Node} (h : n.child? r = some c)
    (hm : isMemberRef r = false) : (setChild n r c').child? r = some c' := by
  cases n with
  | seq a items =>
    cases r with
    | idx i => exact List.getElem?_set_self (List.getElem?_eq_some_iff.1 h).1
    | _ => cases h
  | map a es =>
    cases r with
    | key k => exact (lookup_setKey k k c' es).trans ((if_pos rfl).trans (congrArg (Option.map fun _ => c') h))
    | _ => cases h
  | set a ms =>
    cases r with
    | member k => cases hm
    | _ => cases h
  | scalar a v => cases r <;> cases h

theorem child?_setChild_other {n : Node} {r r' : Ref} {c' : Node} (hne : r' ≠ r) :
    (setChild n r c').child? r' = n.child? r' := by
  unfold setChild
  split
  · cases r' with
    | idx j => exact List.getElem?_set_ne (fun e => hne (congrArg Ref.idx e.symm))
    | _ => rfl
  · cases r' with
    | key k' => exact (lookup_setKey _ k' c' _).trans (if_neg (fun e => hne (congrArg Ref.key e)))
    | _ => rfl
  · rfl

theorem setChild_member {n : Node} {k : Key} {c' : Node} : setChild n (.member k) c' = n := by
  cases n <;> rfl

theorem setKey_same (k : Key) (c : Node) (es : List (Key × Node)) (h : es.lookup k = some c) :
    setKey k c es = es := by
  induction es with
  | nil => rfl
  | cons e rest ih =>
    obtain ⟨k', v'⟩ := e
    rw [setKey]
    by_cases hk : k' = k
    · subst hk
      rw [List.lookup_cons_self] at h
      rw [if_pos rfl, Option.some.inj h]
    · rw [lookup_cons_ne hk] at h
      rw [if_neg hk, ih h]

theorem setChild_child {n : Node} {r : Ref} {c : Node} (h : n.child? r = some c) : setChild n r c = n := by
  unfold setChild
  split
  · obtain ⟨hi, rfl⟩ := List.getElem?_eq_some_iff.1 h
    rw [List.set_getElem_self]
  · rw [setKey_same _ c _ h]
  · rfl

theorem setKey_keys (k : Key) (v : Node) (es : List (Key × Node)) :
    (setKey k v es).map Prod.fst = es.map Prod.fst := by
  induction es with
  | nil => rfl
  | cons e rest ih =>
    rw [setKey]
    by_cases hk : e.1 = k
    · rw [if_pos hk]; rfl
    · rw [if_neg hk, List.map_cons, ih]; rfl

theorem shape_setChild (n : Node) (r : Ref) (c' : Node) : shape (setChild n r c') = shape n := by
  unfold setChild
  split
  · exact congrArg (Shape.seq _) (List.length_set ..)
  · exact congrArg (Shape.map _) (setKey_keys ..)
  · rfl

/-! ## `setAt` against `get?` -/

theorem setAt_of_child {new d c : Node} {r : Ref} {rest : Addr} (h : d.child? r = some c) :
    setAt new d (r :: rest) = setChild d r (setAt new c rest) := by rw [setAt, h]

theorem setAt_of_no_child {new d : Node} {r : Ref} {rest : Addr} (h : d.child? r = none) :
    setAt new d (r :: rest) = d := by rw [setAt, h]

/-- Writing at `a` changes nothing that is observed (`obs`) at a position `p` not under `a`, provided
`obs` does not see a child being replaced in case `p` lies above `a`. -/
theorem get?_setAt_of {β : Type} (obs : Node → β) (new : Node) (a : Addr) (d : Node) (p : Addr)
    (hobs : p <+: a → ∀ n r c', obs (setChild n r c') = obs n) (h : ¬ a <+: p) :
    ((setAt new d a).get? p).map obs = (d.get? p).map obs := by
  induction a generalizing d p with
  | nil => exact (h List.nil_prefix).elim
  | cons r rest ih =>
    cases hc : d.child? r with
    | none => rw [setAt_of_no_child hc]
    | some c =>
      rw [setAt_of_child hc]
      cases p with
      | nil => exact congrArg some (hobs List.nil_prefix d r _)
      | cons r' rest' =>
        by_cases hr : r' = r
        · subst hr
          cases hm : isMemberRef r' with
          | false =>
            rw [get?_cons, get?_cons, child?_setChild_same hc hm, hc]
            exact ih c rest' (fun hp => hobs ((List.prefix_cons_inj r').2 hp))
              (fun hp => h ((List.prefix_cons_inj r').2 hp))
          | true =>
            cases r' with
            | member k => rw [setChild_member]
            | _ => cases hm
        · rw [get?_cons, get?_cons, child?_setChild_other hr]

theorem get?_setAt_apart (new : Node) (a : Addr) (d : Node) (b : Addr) (h : Apart a b) :
    (setAt new d a).get? b = d.get? b := by
  have := get?_setAt_of id new a d b (fun hp => (h.2 hp).elim) h.1
  rwa [Option.map_id, id, id] at this

/-- Writing at `a` keeps the shape of every position that does not lie under `a` (the positions
above `a` included). -/
theorem shape_get?_setAt (new : Node) (a : Addr) (d : Node) (p : Addr) (h : ¬ a <+: p) :
    ((setAt new d a).get? p).map shape = (d.get? p).map shape :=
  get?_setAt_of shape new a d p (fun _ => shape_setChild) h

theorem hasMember_cons (r : Ref) (a : Addr) : hasMember (r :: a) = (isMemberRef r || hasMember a) := rfl

theorem get?_setAt_self (new : Node) (a : Addr) (d old : Node) (hm : hasMember a = false)
    (h : d.get? a = some old) : (setAt new d a).get? a = some new := by
  induction a generalizing d with
  | nil => rfl
  | cons r rest ih =>
    rw [hasMember_cons, Bool.or_eq_false_iff] at hm
    rw [get?_cons] at h
    cases hc : d.child? r with
    | none => rw [hc] at h; cases h
    | some c =>
      rw [hc] at h
      rw [setAt_of_child hc]
      exact (get?_of_child (child?_setChild_same hc hm.1) _).trans (ih c hm.2 h)

/-! ## The loop over the targets -/

theorem mergeOne_ok {env : Env} {r d d' : Node} {a : Addr} (h : mergeOne env r d a = .ok d') :
    hasMember a = false ∧ ∃ old m, d.get? a = some old ∧
      mergeTarget env a.isEmpty old r = .ok m ∧ d' = setAt m d a := by
  unfold mergeOne at h
  split at h
  · cases h
  · rename_i hm
    split at h
    · cases h
    · rename_i old hg
      split at h
      · cases h
      · rename_i m ht
        cases h
        exact ⟨Bool.eq_false_iff.2 hm, old, m, hg, ht, rfl⟩

theorem mergeTargets_cons_ok {env : Env} {r d d' : Node} {a : Addr} {rest : List Addr}
    (h : mergeTargets env r d (a :: rest) = .ok d') :
    ∃ old m, hasMember a = false ∧ d.get? a = some old ∧ mergeTarget env a.isEmpty old r = .ok m ∧
      mergeTargets env r (setAt m d a) rest = .ok d' := by
  rw [mergeTargets] at h
  split at h
  · cases h
  · rename_i d1 h1
    obtain ⟨hm, old, m, hold, hmt, rfl⟩ := mergeOne_ok h1
    exact ⟨old, m, hm, hold, hmt, h⟩

theorem mergeTargets_keeps {β : Type} (obs : Node → β) (env : Env) (r : Node) (ts : List Addr) (d d' : Node)
    (hobs : ∀ t ∈ ts, ∀ m d, obs (setAt m d t) = obs d) (h : mergeTargets env r d ts = .ok d') :
    obs d' = obs d := by
  induction ts generalizing d with
  | nil => cases h; rfl
  | cons a rest ih =>
    obtain ⟨_, m, _, _, _, h'⟩ := mergeTargets_cons_ok h
    rw [ih _ (fun t ht => hobs t (List.mem_cons_of_mem _ ht)) h']
    exact hobs a List.mem_cons_self m d

theorem mergeTargets_frame (env : Env) (r : Node) (ts : List Addr) (d d' : Node)
    (h : mergeTargets env r d ts = .ok d') (b : Addr) (hb : ∀ t ∈ ts, Apart t b) : d'.get? b = d.get? b :=
  mergeTargets_keeps (·.get? b) env r ts d d' (fun t ht m d => get?_setAt_apart m t d b (hb t ht)) h

theorem mergeTargets_merged (env : Env) (r : Node) (ts : List Addr) (d d' : Node) (hp : ts.Pairwise Apart)
    (h : mergeTargets env r d ts = .ok d') (t : Addr) (ht : t ∈ ts) :
    ∃ old m, d.get? t = some old ∧ mergeTarget env t.isEmpty old r = .ok m ∧ d'.get? t = some m := by
  induction ts generalizing d with
  | nil => cases ht
  | cons a rest ih =>
    obtain ⟨old, m, hm, hold, hmt, h'⟩ := mergeTargets_cons_ok h
    obtain ⟨hpa, hpr⟩ := List.pairwise_cons.1 hp
    rcases List.mem_cons.1 ht with rfl | htr
    · refine ⟨old, m, hold, hmt, ?_⟩
      rw [mergeTargets_frame env r rest _ d' h' t (fun t' ht' => (hpa t' ht').symm)]
      exact get?_setAt_self m t d old hm hold
    · obtain ⟨old', m', hold', hres⟩ := ih _ hpr h' htr
      rw [get?_setAt_apart m a d t (hpa t htr)] at hold'
      exact ⟨old', m', hold', hres⟩

/-! ## Creation of a missing path -/

theorem ite_eq_cases {α : Type} {c : Prop} [Decidable c] {x y z : α} (h : (if c then x else y) = z) :
    c ∧ x = z ∨ ¬ c ∧ y = z := by
  split at h
  · exact .inl ⟨‹c›, h⟩
  · exact .inr ⟨‹¬ c›, h⟩

theorem getElem?_concat_of_length {α : Type} {l : List α} {n : Nat} (h : l.length = n) (c : α) :
    (l ++ [c])[n]? = some c := h ▸ List.getElem?_concat_length

theorem fillN_resolves (leaf : Node) (rest : List PSeg) (c : Node) (h : fillN rest leaf = .ok c) :
    c.get? (fillAddr rest) = some leaf := by
  induction rest generalizing c with
  | nil => cases h; rfl
  | cons seg rest ih =>
    cases seg with
    | key s =>
      obtain ⟨c0, hf, rfl⟩ := Except.map_eq_ok h
      refine (get?_of_child ?_ _).trans (ih c0 hf)
      exact List.lookup_cons_self
    | index i =>
      rw [fillN] at h
      split at h
      · cases h
      · obtain ⟨c0, hf, rfl⟩ := Except.map_eq_ok h
        refine (get?_of_child ?_ _).trans (ih c0 hf)
        exact getElem?_concat_of_length List.length_replicate c0

/-- A successful creation block for a missing segment appended the filled spine: to a sequence, padded
up to the (not yet existing) index; to a mapping, under a key it did not have. -/
theorem createHereN_ok {n n' leaf : Node} {seg : PSeg} {rest : List PSeg}
    (hl : lookSeg n seg = .missing) (h : createHereN n seg rest leaf = .ok n') :
    ∃ c, fillN rest leaf = .ok c ∧
      ((∃ a items i, n = .seq a items ∧ intOfSeg seg = some i ∧ items.length ≤ i.toNat ∧
          n' = .seq a (items ++ List.replicate (i.toNat - items.length) (buildNextN rest leaf) ++ [c])) ∨
       (∃ a es s, n = .map a es ∧ seg = .key s ∧ (es.map Prod.fst).contains (.str s) = false ∧
          n' = .map a (es ++ [(.str s, c)]))) := by
  unfold createHereN at h
  split at h
  · rename_i a items
    split at h
    · cases h
    · rename_i i hi
      split at h
      · cases h
      · rename_i hneg
        split at h
        · cases h
        · rename_i c hc
          cases h
          refine ⟨c, hc, .inl ⟨a, items, i, rfl, hi, ?_, rfl⟩⟩
          rw [lookSeg, hi] at hl
          rcases ite_eq_cases hl with ⟨hgt, hl⟩ | ⟨hgt, _⟩
          · rw [if_pos (Int.not_lt.1 hneg)] at hl; cases hl
          · exact (Int.le_toNat (Int.not_lt.1 hneg)).2 (Int.not_lt.1 hgt)
  · rename_i a es
    split at h
    · rename_i s
      split at h
      · cases h
      · rename_i c hc
        cases h
        refine ⟨c, hc, .inr ⟨a, es, s, rfl, rfl, ?_, rfl⟩⟩
        rcases ite_eq_cases hl with ⟨_, hl⟩ | ⟨hk, _⟩
        · cases hl
        · exact Bool.eq_false_iff.2 hk
    · cases h
  · cases h
  · cases h

theorem createHereN_resolves {n n' leaf : Node} {seg : PSeg} {rest : List PSeg}
    (hl : lookSeg n seg = .missing) (h : createHereN n seg rest leaf = .ok n') :
    n'.get? (newRef n seg :: fillAddr rest) = some leaf := by
  obtain ⟨c, hc, ⟨a, items, i, rfl, hi, hlen, rfl⟩ | ⟨a, es, s, rfl, rfl, hnew, rfl⟩⟩ := createHereN_ok hl h
  · have hpad : (items ++ List.replicate (i.toNat - items.length) (buildNextN rest leaf)).length = i.toNat := by
      rw [List.length_append, List.length_replicate, Nat.add_sub_cancel' hlen]
    rw [newRef, hi]
    refine (get?_of_child ?_ _).trans (fillN_resolves leaf rest c hc)
    exact getElem?_concat_of_length hpad c
  · refine (get?_of_child ?_ _).trans (fillN_resolves leaf rest c hc)
    exact List.lookup_append.trans (by rw [lookup_eq_none_of_keys hnew]; exact List.lookup_cons_self)

theorem createHereN_child_old {n n' leaf : Node} {seg : PSeg} {rest : List PSeg} {r' : Ref} {y : Node}
    (hl : lookSeg n seg = .missing) (h : createHereN n seg rest leaf = .ok n') (hc : n.child? r' = some y) :
    n'.child? r' = some y := by
  obtain ⟨c, -, ⟨a, items, i, rfl, -, -, rfl⟩ | ⟨a, es, s, rfl, rfl, -, rfl⟩⟩ := createHereN_ok hl h
  · cases r' with
    | idx j =>
      exact (congrArg (·[j]?) (List.append_assoc ..)).trans
        ((List.getElem?_append_left (List.getElem?_eq_some_iff.1 hc).1).trans hc)
    | _ => cases hc
  · cases r' with
    | key k => exact List.lookup_append.trans (congrArg (Option.or · _) hc)
    | _ => cases hc

theorem lookSeg_found_isMemberRef {n : Node} {seg : PSeg} {r : Ref} (h : lookSeg n seg = .found r) :
    isMemberRef r = false := by
  cases r with
  | member k => exact absurd rfl (lookSeg_found_not_member h k)
  | _ => rfl

theorem createPathN_ok_induct {leaf : Node} {P : Node → List PSeg → CreatedN → Prop}
    (done : ∀ n, P n [] ⟨n, [], false⟩)
    (missing : ∀ n seg rest n', lookSeg n seg = .missing → createHereN n seg rest leaf = .ok n' →
      P n (seg :: rest) ⟨n', newRef n seg :: fillAddr rest, true⟩)
    (null : ∀ n seg rest r c0, lookSeg n seg = .found r → n.child? r = some c0 → isPlainNull c0 = true →
      P n (seg :: rest) ⟨n, [r], false⟩)
    (descend : ∀ n seg rest r c0 cr, lookSeg n seg = .found r → n.child? r = some c0 →
      createPathN leaf c0 rest = .ok cr → P c0 rest cr →
      P n (seg :: rest) ⟨setChild n r cr.doc, r :: cr.addr, cr.fresh⟩)
    (segs : List PSeg) (n : Node) (c : CreatedN) (h : createPathN leaf n segs = .ok c) : P n segs c := by
  induction segs generalizing n c with
  | nil => cases h; exact done n
  | cons seg rest ih =>
    rw [createPathN] at h
    split at h
    · cases h
    · rename_i hl
      split at h
      · cases h
      · rename_i n' hh; cases h; exact missing n seg rest n' hl hh
    · rename_i r hl
      split at h
      · cases h
      · rename_i c0 hc
        split at h
        · rename_i hn; cases h; exact null n seg rest r c0 hl hc hn
        · split at h
          · cases h
          · rename_i cr hr; cases h; exact descend n seg rest r c0 cr hl hc hr (ih c0 cr hr)

section
variable (leaf : Node) (segs : List PSeg) (n : Node) (c : CreatedN) (h : createPathN leaf n segs = .ok c)
include h

theorem createPathN_fresh_holds : c.fresh = true → c.doc.get? c.addr = some leaf :=
  createPathN_ok_induct (P := fun _ _ c => c.fresh = true → c.doc.get? c.addr = some leaf)
    (fun _ hf => nomatch hf)
    (fun _ _ _ _ hl hh _ => createHereN_resolves hl hh)
    (fun _ _ _ _ _ _ _ _ hf => nomatch hf)
    (fun _ _ _ _ _ _ hl hc _ ih hf =>
      (get?_of_child (child?_setChild_same hc (lookSeg_found_isMemberRef hl)) _).trans (ih hf))
    segs n c h

/-- After the creation a node that existed at an address apart from the relayed one is still
there, unchanged. -/
theorem createPathN_frame :
    ∀ (b : Addr) (x : Node), n.get? b = some x → Apart c.addr b → c.doc.get? b = some x :=
  createPathN_ok_induct (P := fun n _ c => ∀ b x, n.get? b = some x → Apart c.addr b → c.doc.get? b = some x)
    (fun _ _ _ hb _ => hb)
    (fun n _ _ n' hl hh b x hb hap => by
      cases b with
      | nil => exact hap.nil_right.elim
      | cons r' rest' =>
        rw [get?_cons] at hb ⊢
        cases hc : n.child? r' with
        | none => rw [hc] at hb; cases hb
        | some y => rw [createHereN_child_old hl hh hc]; rw [hc] at hb; exact hb)
    (fun _ _ _ _ _ _ _ _ _ _ hb _ => hb)
    (fun n _ _ r c0 cr hl hc _ ih b x hb hap => by
      cases b with
      | nil => exact hap.nil_right.elim
      | cons r' rest' =>
        by_cases hrr : r' = r
        · subst hrr
          rw [get?_of_child hc] at hb
          exact (get?_of_child (child?_setChild_same hc (lookSeg_found_isMemberRef hl)) _).trans
            (ih rest' x hb hap.of_cons)
        · rw [get?_cons, child?_setChild_other hrr, ← get?_cons]; exact hb)
    segs n c h

/-- When nothing is created (`fresh = false`: the whole path exists, or a plain null met on the way is
relayed) the document is unchanged and the relayed address holds a node. -/
theorem createPathN_not_fresh : c.fresh = false → c.doc = n ∧ ∃ x, n.get? c.addr = some x :=
  createPathN_ok_induct (P := fun n _ c => c.fresh = false → c.doc = n ∧ ∃ x, n.get? c.addr = some x)
    (fun n _ => ⟨rfl, n, rfl⟩)
    (fun _ _ _ _ _ _ hf => nomatch hf)
    (fun _ _ _ _ c0 _ hc _ _ => ⟨rfl, c0, get?_of_child hc []⟩)
    (fun n _ _ r c0 cr _ hc _ ih hf => by
      obtain ⟨hd, x, hx⟩ := ih hf
      exact ⟨by rw [hd]; exact setChild_child hc, x, (get?_of_child hc _).trans hx⟩)
    segs n c h

theorem createPathN_fresh_not_root : c.fresh = true → c.addr.isEmpty = false :=
  createPathN_ok_induct (P := fun _ _ c => c.fresh = true → c.addr.isEmpty = false)
    (fun _ hf => nomatch hf) (fun _ _ _ _ _ _ _ => rfl) (fun _ _ _ _ _ _ _ _ _ => rfl)
    (fun _ _ _ _ _ _ _ _ _ _ _ => rfl) segs n c h

end

/-! ## The relayed address never passes through a set member -/

theorem hasMember_fillAddr (rest : List PSeg) : hasMember (fillAddr rest) = false := by
  induction rest with
  | nil => rfl
  | cons seg rest ih => cases seg <;> exact ih

theorem isMemberRef_newRef (n : Node) (seg : PSeg) : isMemberRef (newRef n seg) = false := by
  cases n <;> rfl

theorem createPathN_addr_noMember (leaf : Node) :
    ∀ (segs : List PSeg) (n : Node) (c : CreatedN), createPathN leaf n segs = .ok c →
      hasMember c.addr = false :=
  createPathN_ok_induct (P := fun _ _ c => hasMember c.addr = false)
    (fun _ => rfl)
    (fun n seg rest _ _ _ => by rw [hasMember_cons, isMemberRef_newRef, hasMember_fillAddr]; rfl)
    (fun _ _ _ _ _ hl _ _ => by rw [hasMember_cons, lookSeg_found_isMemberRef hl]; rfl)
    (fun _ _ _ _ _ _ hl _ _ ih => by rw [hasMember_cons, lookSeg_found_isMemberRef hl, ih]; rfl)

/-! ## The C05 root merge of two non-null documents -/

theorem isNull_eq_false {n : Node} (h : isNull n = false) (a : Option Str) : n ≠ .scalar a .null := by
  intro e; subst e; cases h

/-- The C05 root merge of two documents neither of which is null: the dispatch on the right-hand
document's kind. -/
theorem mergeWith_of_not_null (cfg : Config) (l r : Node) (hl : isNull l = false) (hr : isNull r = false) :
    mergeWith cfg l r = match (generalizing := false) r with
      | .map ra res => rootTagSync l (insertDict (prepare cfg r) l ra res)
      | .seq ra ritems => rootTagSync l (insertList (prepare cfg r) l ra ritems)
      | .set ra rms => rootTagSync l (insertSet (prepare cfg r) l ra rms)
      | .scalar ra v => insertScalar (prepare cfg r) l ra v := by
  unfold mergeWith
  split
  · exact (isNull_eq_false hr _ rfl).elim
  · split
    · exact (isNull_eq_false hl _ rfl).elim
    · rfl

/-! ## The merge: `mergeAt` and `mergeCreate` by cases -/

theorem mergeAt_existing (cfg : Config) (l r : Node) (ts : List Addr) (hr : isNull r = false) :
    mergeAt cfg l (.existing ts) r =
      if isNull l then .error .outOfModel else if ts.isEmpty then .error .merge
      else mergeTargets (prepare cfg r) r l ts := by
  rw [mergeAt, hr]; rfl

theorem mergeAt_existing_ok {cfg : Config} {l r d' : Node} {ts : List Addr}
    (h : mergeAt cfg l (.existing ts) r = .ok d') (hr : isNull r = false) :
    mergeTargets (prepare cfg r) r l ts = .ok d' := by
  rw [mergeAt_existing cfg l r ts hr] at h
  rcases ite_eq_cases h with ⟨_, h⟩ | ⟨_, h⟩
  · cases h
  · rcases ite_eq_cases h with ⟨_, h⟩ | ⟨_, h⟩
    · cases h
    · exact h

theorem mergeAt_existing_keeps {β : Type} (obs : Node → β) {cfg : Config} {l r d' : Node} {ts : List Addr}
    (hobs : ∀ t ∈ ts, ∀ m d, obs (setAt m d t) = obs d) (h : mergeAt cfg l (.existing ts) r = .ok d') :
    obs d' = obs l := by
  cases hr : isNull r with
  | true => rw [mergeAt, if_pos hr] at h; cases h; rfl
  | false => exact mergeTargets_keeps obs _ r ts l d' hobs (mergeAt_existing_ok h hr)

theorem mergeAt_create (cfg : Config) (l r : Node) (segs : List PSeg) (hr : isNull r = false)
    (hl : isNull l = false) : mergeAt cfg l (.create segs) r = mergeCreate (prepare cfg r) r l segs := by
  rw [mergeAt, hr, hl]; rfl

theorem mergeAt_create_null (cfg : Config) (l r leaf : Node) (segs : List PSeg) (hr : isNull r = false)
    (hl : isNull l = true) (hw : wrapLeaf r = .ok leaf) :
    mergeAt cfg l (.create segs) r =
      if segs.isEmpty && !r.isScalar then .ok leaf
      else mergeCreate (prepare cfg r) r (buildNextN segs leaf) segs := by
  rw [mergeAt, hr, hl]; simp only [hw]; rfl

theorem mergeCreate_eq (env : Env) (r start leaf : Node) (segs : List PSeg) (c : CreatedN)
    (hw : wrapLeaf r = .ok leaf) (hc : createPathN leaf start segs = .ok c) :
    mergeCreate env r start segs =
      if c.fresh && !r.isScalar then .ok c.doc else mergeOne env r c.doc c.addr := by
  rw [mergeCreate, hw]; simp only [hc]

theorem wrapLeaf_of_not_scalar {r : Node} (h : r.isScalar = false) : wrapLeaf r = .ok r := by
  cases r with
  | scalar a v => cases h
  | _ => rfl

/-! ## On a Scalar leaf the creation model is the C09 model (`Model/Edit.lean`) -/

def CreatedN.toCreated (c : CreatedN) : Created := ⟨c.doc, c.addr⟩

theorem buildNextN_scalar (rest : List PSeg) (s : Scalar) :
    buildNextN rest (.scalar none s) = buildNext rest s := by
  cases rest with
  | nil => rfl
  | cons seg t => cases seg <;> rfl

theorem fillN_scalar (s : Scalar) (rest : List PSeg) : fillN rest (.scalar none s) = fill rest s := by
  induction rest with
  | nil => rfl
  | cons seg rest ih =>
    cases seg with
    | key k => rw [fillN, fill, ih]
    | index i => rw [fillN, fill, ih, buildNextN_scalar]

theorem createHereN_scalar (n : Node) (seg : PSeg) (rest : List PSeg) (s : Scalar) :
    createHereN n seg rest (.scalar none s) = createHere n seg rest s := by
  cases n with
  | seq a items => rw [createHereN, createHere, fillN_scalar, buildNextN_scalar]; rfl
  | map a es => cases seg with
    | key k => rw [createHereN, createHere, fillN_scalar]; rfl
    | index i => rfl
  | _ => rfl

theorem isPlainNull_eq_false {c : Node} (h : c ≠ .scalar none .null) : isPlainNull c = false := by
  unfold isPlainNull
  split
  · exact (h rfl).elim
  · rfl

theorem createList_eq (s : Scalar) (items : List Node) (i : Nat) (rest : List PSeg) :
    createList s items i rest =
      match items[i]? with
      | none => .error .outOfModel
      | some c =>
        if isPlainNull c then .ok (items, [])
        else (c.createPath s rest).map (fun r => (items.set i r.doc, r.addr)) := by
  induction items generalizing i with
  | nil => rfl
  | cons c cs ih =>
    cases i with
    | zero =>
      rw [List.getElem?_cons_zero]
      dsimp only
      by_cases hn : c = .scalar none .null
      · subst hn; rfl
      · rw [isPlainNull_eq_false hn, if_neg Bool.false_ne_true, createList]
        · rfl
        · exact hn
    | succ i =>
      rw [createList, ih i, List.getElem?_cons_succ]
      cases cs[i]? with
      | none => rfl
      | some c0 =>
        dsimp only
        cases isPlainNull c0 with
        | true => rfl
        | false => cases c0.createPath s rest <;> rfl

theorem createEntries_eq (s : Scalar) (es : List (Key × Node)) (k : Key) (rest : List PSeg) :
    createEntries s es k rest =
      match es.lookup k with
      | none => .error .outOfModel
      | some c =>
        if isPlainNull c then .ok (es, [])
        else (c.createPath s rest).map (fun r => (setKey k r.doc es, r.addr)) := by
  induction es with
  | nil => rfl
  | cons e es ih =>
    obtain ⟨k', c⟩ := e
    by_cases hk : k' = k
    · subst hk
      rw [List.lookup_cons_self]
      dsimp only
      by_cases hn : c = .scalar none .null
      · subst hn; rw [createEntries, if_pos rfl]; rfl
      · rw [isPlainNull_eq_false hn, if_neg Bool.false_ne_true, createEntries, if_pos rfl]
        · simp only [setKey, if_true]
        · exact hn
    · simp only [createEntries, if_neg hk, ih, lookup_cons_ne hk]
      cases es.lookup k with
      | none => rfl
      | some c0 =>
        dsimp only
        cases isPlainNull c0 with
        | true => rfl
        | false =>
          simp only [setKey, if_neg hk]
          cases c0.createPath s rest <;> rfl

/-- On a Scalar leaf the path creation used here is
`Node.createPath` of `Model/Edit.lean` — the function the C09 theorems (`create_exact`, `fill_resolves`,
`create_nothing_when_present`) are about. -/
theorem mergeat_creation_is_c09 (s : Scalar) (segs : List PSeg) (n : Node) :
    (createPathN (.scalar none s) n segs).map CreatedN.toCreated = n.createPath s segs := by
  induction segs generalizing n with
  | nil => cases n <;> rfl
  | cons seg rest ih =>
    rw [createPathN, createHereN_scalar]
    cases n with
    | scalar a v => rfl
    | set a ms => rfl
    | seq a items =>
      rw [Node.createPath]
      cases lookSeg (.seq a items) seg with
      | crash e => rfl
      | missing => dsimp only; cases createHere (.seq a items) seg rest s <;> rfl
      | found r =>
        cases r with
        | idx i =>
          dsimp only [Node.child?]
          rw [createList_eq s items i rest]
          cases items[i]? with
          | none => rfl
          | some c =>
            dsimp only
            cases isPlainNull c with
            | true => rfl
            | false =>
              rw [← ih c]
              cases createPathN (.scalar none s) c rest <;> rfl
        | key k => rfl
        | member k => rfl
    | map a es =>
      cases seg with
      | index i => rfl
      | key k0 =>
        rw [Node.createPath]
        cases lookSeg (.map a es) (.key k0) with
        | crash e => rfl
        | missing => dsimp only; cases createHere (.map a es) (.key k0) rest s <;> rfl
        | found r =>
          cases r with
          | key k =>
            dsimp only [Node.child?]
            rw [createEntries_eq s es k rest]
            cases es.lookup k with
            | none => rfl
            | some c =>
              dsimp only
              cases isPlainNull c with
              | true => rfl
              | false =>
                rw [← ih c]
                cases createPathN (.scalar none s) c rest <;> rfl
          | idx i => rfl
          | member k => rfl

/-! ## Re-basing rule paths on the merge path -/

/-- `/k1/k2/…` (nothing for the empty list). -/
def renderRaw (ks : List Str) : Str := ks.foldr (fun k acc => '/' :: k ++ acc) []

theorem renderRaw_append (a b : List Str) : renderRaw (a ++ b) = renderRaw a ++ renderRaw b := by
  induction a with
  | nil => rfl
  | cons k ks ih => exact (congrArg (('/' :: k) ++ ·) ih).trans (List.append_assoc ..).symm

theorem go_key (k : Str) (hk : '/' ∉ k) (rest cur : Str) (acc : List Str) :
    splitKeys.go (k ++ rest) cur acc = splitKeys.go rest (cur ++ k) acc := by
  induction k generalizing cur with
  | nil => exact congrArg (splitKeys.go rest · acc) (List.append_nil cur).symm
  | cons c cs ih =>
    have hc : c ≠ '/' := fun e => hk (e ▸ List.mem_cons_self)
    rw [List.cons_append, splitKeys.go, if_neg hc, ih (fun h => hk (List.mem_cons_of_mem _ h)), List.append_assoc]
    rfl

theorem go_render (p : List Str) (h : ∀ k ∈ p, '/' ∉ k) (cur : Str) (acc : List Str) :
    splitKeys.go (renderRaw p) cur acc = acc ++ [cur] ++ p := by
  induction p generalizing cur acc with
  | nil => exact (List.append_nil _).symm
  | cons k ps ih =>
    show splitKeys.go ('/' :: (k ++ renderRaw ps)) cur acc = _
    rw [splitKeys.go, if_pos rfl, go_key k (h k List.mem_cons_self),
      ih (fun k' hk' => h k' (List.mem_cons_of_mem _ hk'))]
    exact List.append_assoc (acc ++ [cur]) [k] ps

theorem reparse_renderRaw (p : List Str) (hp : ∀ k ∈ p, k ≠ [] ∧ '/' ∉ k) : reparse (renderRaw p) = p := by
  cases p with
  | nil => rfl
  | cons k0 p0 =>
    show (if '/' = '/' then splitKeys (renderRaw (k0 :: p0)) else [renderRaw (k0 :: p0)]) = _
    rw [if_pos rfl, splitKeys, go_render _ (fun k hk => (hp k hk).2)]
    show (k0 :: p0).filter (fun k => !k.isEmpty) = _
    refine List.filter_eq_self.2 fun k hk => ?_
    cases k with
    | nil => exact absurd rfl (hp _ hk).1
    | cons _ _ => rfl

/-- A rule written against the left document below the merge path — `mergePath ++ p`,
plain key names (non-empty, without the separator) — is the rule `p` of the right-hand document. -/
theorem stripPrefix_append (m p : List Str) (hm : m ≠ [])
    (hp : ∀ k ∈ p, k ≠ [] ∧ '/' ∉ k) : stripPrefix (m ++ p) m = p := by
  obtain ⟨k, ks, rfl⟩ := List.exists_cons_of_ne_nil hm
  have hr : renderKeys (k :: ks ++ p) = renderKeys (k :: ks) ++ renderRaw p := renderRaw_append (k :: ks) p
  rw [stripPrefix, if_neg (by exact Bool.false_ne_true)]
  simp only [hr, List.isPrefixOf_iff_prefix.2 (List.prefix_append _ _), if_true, List.drop_left']
  exact reparse_renderRaw p hp

end Ypv.MergeAt
