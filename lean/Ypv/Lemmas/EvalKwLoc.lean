import Ypv.Lemmas.Order
import Ypv.Lemmas.EvalKw
/-!
# Keyword results are the nodes at the addresses `kwSearch` returns; the segments of a result's
coordinates (`pathSegs`); documents without twin keys (`stepClear`, `docClear`)
(helpers of `Props/C01`, `Props/C02`)
-/
namespace Ypv
namespace W1
open Ypv.Eval Ypv.Spec Gen

/-- The address of a result (`[]` for a virtual list). -/
def resAddr : Res → Addr
  | .real x => x.2.addr
  | .virt _ => []

theorem kwChild_addr {n : Node} {c : Ctx} {r : Ref} {x : NC} (h : kwChild n c r = some x) :
    x.2.addr = c.addr ++ [r] ∧ n.child? r = some x.1 := by
  cases r with
  | idx i =>
    cases n with
    | seq a items =>
      obtain ⟨y, hy, rfl⟩ := Option.map_eq_some_iff.mp h
      exact ⟨rfl, hy⟩
    | _ => cases h
  | key k =>
    cases n with
    | map a es =>
      obtain ⟨y, hy, rfl⟩ := Option.map_eq_some_iff.mp h
      exact ⟨rfl, hy⟩
    | _ => cases h
  | member k => cases h

/-- What `kwResolve` returns for an address: coordinates with exactly that address; the node is the
present node, its child under the last reference, or the node at the address below `rt`. -/
theorem kwResolve_spec {rt n : Node} {c : Ctx} {a : Addr} {x : NC} (h : kwResolve rt n c a = some x) :
    x.2.addr = a ∧
    ((a = c.addr ∧ x.1 = n) ∨ (∃ r, a = c.addr ++ [r] ∧ n.child? r = some x.1) ∨
      (a.length < c.addr.length ∧ rt.get? a = some x.1)) := by
  unfold kwResolve at h
  by_cases ha : a = c.addr
  · rw [if_pos ha] at h
    cases h
    exact ⟨ha.symm, Or.inl ⟨ha, rfl⟩⟩
  rw [if_neg ha] at h
  by_cases hlt : a.length < c.addr.length
  · rw [if_pos hlt] at h
    split at h
    · rename_i htk
      split at h
      · rename_i m hm
        cases h
        refine ⟨?_, Or.inr (Or.inr ⟨hlt, hm⟩)⟩
        show c.addr.take (c.addr.length - (c.addr.length - a.length)) = a
        rw [Nat.sub_sub_self (Nat.le_of_lt hlt)]
        exact htk.symm
      · cases h
    · cases h
  · rw [if_neg hlt] at h
    split at h
    · rename_i r hr
      split at h
      · rename_i har
        obtain ⟨h1, h2⟩ := kwChild_addr h
        exact ⟨h1.trans har.symm, Or.inr (Or.inl ⟨r, har, h2⟩)⟩
      · cases h
    · cases h

theorem kwResolveAll_spec {rt n : Node} {c : Ctx} : ∀ {as : List Addr} {l : List NC},
    kwResolveAll rt n c as = some l → l.map (·.2.addr) = as ∧ ∀ x ∈ l, ∃ a, kwResolve rt n c a = some x := by
  intro as
  induction as with
  | nil => intro _ h; cases h; exact ⟨rfl, fun _ hx => nomatch hx⟩
  | cons a as ih =>
    intro _ h
    simp only [kwResolveAll] at h
    split at h
    · rename_i x xs hx hxs
      cases h
      obtain ⟨h1, h2⟩ := ih hxs
      exact ⟨by rw [List.map_cons, (kwResolve_spec hx).1, h1], List.forall_mem_cons.mpr ⟨⟨a, hx⟩, h2⟩⟩
    · cases h

theorem kwResolve_get {d n : Node} {c : Ctx} (hl : Loc d n c) {a : Addr} {x : NC}
    (h : kwResolve d n c a = some x) : d.get? x.2.addr = some x.1 := by
  obtain ⟨h1, h2⟩ := kwResolve_spec h
  rw [h1]
  rcases h2 with ⟨ha, hx⟩ | ⟨r, ha, hc⟩ | ⟨_, hg⟩
  · rw [ha, hx]; exact hl.get
  · rw [ha, ev_get?_append, hl.get]; exact hc
  · exact hg

/-! ## The segments of a result's coordinates -/

/-- The segment that names a reported reference: a key or set member by its text, a list element
by the index as reported (possibly negative). -/
def segOfPref : PRef → ESeg
  | .key k => .key k.text
  | .member k => .key k.text
  | .idx i => .index i

/-- The segments of a result's coordinates, one per ancestry entry. -/
def pathSegs (c : Ctx) : List ESeg := c.anc.map (fun e => segOfPref e.2)

/-- The step from the parent `n` under the reported reference `pr` is not shadowed by a twin:
an integer key has no string key with its digits beside it (`{1: x, '1': y}`), and no earlier
member of a set has the same text. -/
def stepClear (n : Node) (pr : PRef) : Bool :=
  match n, pr with
  | .map _ es, .key (.int i) => (es.lookup (.str (pyStrInt i))).isNone
  | .set _ ms, .member k => ms.find? (fun m => m.text == k.text) == some k
  | _, _ => true

/-! ## Documents without twin keys -/

/-- The node has no twins: no integer key beside the string key with its digits, no two set members
with the same text. -/
def nodeClear : Node → Bool
  | .map _ es => es.all (fun kv => match kv.1 with
      | .int i => (es.lookup (.str (pyStrInt i))).isNone
      | .str _ => true)
  | .set _ ms => ms.all (fun k => ms.find? (fun m => m.text == k.text) == some k)
  | _ => true

mutual
/-- No node of the document has twins (decidable; Python allows `{1: x, '1': y}`, the path notation
cannot tell the two keys apart). -/
def docClear : Node → Bool
  | .scalar .. => true
  | .set a ms => nodeClear (.set a ms)
  | .seq _ items => clearList items
  | .map a es => nodeClear (.map a es) && clearEntries es
def clearList : List Node → Bool
  | [] => true
  | n :: ns => docClear n && clearList ns
def clearEntries : List (Key × Node) → Bool
  | [] => true
  | (_, n) :: es => docClear n && clearEntries es
end

theorem clearList_mem {items : List Node} (h : clearList items = true) : ∀ n ∈ items, docClear n = true := by
  induction items with
  | nil => exact fun _ hn => nomatch hn
  | cons x xs ih =>
    rw [clearList, Bool.and_eq_true] at h
    exact List.forall_mem_cons.mpr ⟨h.1, ih h.2⟩

theorem clearEntries_mem {es : List (Key × Node)} (h : clearEntries es = true) : ∀ kv ∈ es, docClear kv.2 = true := by
  induction es with
  | nil => exact fun _ hn => nomatch hn
  | cons x xs ih =>
    rw [clearEntries, Bool.and_eq_true] at h
    exact List.forall_mem_cons.mpr ⟨h.1, ih h.2⟩

theorem docClear_node {n : Node} (h : docClear n = true) : nodeClear n = true := by
  cases n with
  | scalar a v => rfl
  | seq a items => rfl
  | set a ms => rwa [docClear] at h
  | map a es => rw [docClear, Bool.and_eq_true] at h; exact h.1

theorem docClear_child {n m : Node} {r : Ref} (hn : docClear n = true) (h : n.child? r = some m) :
    docClear m = true := by
  rcases child?_cases h with ⟨a, items, i, rfl, rfl, h'⟩ | ⟨a, es, k, rfl, rfl, h'⟩ | ⟨a, ms, k, rfl, rfl, _, rfl⟩
  · rw [docClear] at hn
    exact clearList_mem hn m (List.mem_of_getElem? h')
  · rw [docClear, Bool.and_eq_true] at hn
    exact clearEntries_mem hn.2 _ (mem_of_lookup h')
  · rfl

theorem stepClear_of_nodeClear {n m : Node} {r : Ref} {pr : PRef} (hn : nodeClear n = true)
    (hc : n.child? r = some m) (hp : prefOk n pr r) : stepClear n pr = true := by
  rcases child?_cases hc with ⟨a, items, i, rfl, rfl, _⟩ | ⟨a, es, k, rfl, rfl, hk⟩ | ⟨a, ms, k, rfl, rfl, hk, rfl⟩
  · rfl
  · cases pr with
    | key k' =>
      cases (show k' = k from hp)
      cases k with
      | str s => rfl
      | int i => exact List.all_eq_true.mp hn _ (mem_of_lookup hk)
    | _ => rfl
  · cases pr with
    | member k' =>
      cases (show k' = k from hp)
      exact List.all_eq_true.mp hn k hk
    | _ => rfl

theorem loc_clear {d n : Node} {c : Ctx} (h : Loc d n c) (hd : docClear d = true) : docClear n = true := by
  induction h with
  | root => exact hd
  | child r pr sec m _ hc _ ih => exact docClear_child ih hc

/-- The reported references as parser segments. -/
def segSOfPref : PRef → Seg
  | .key k => (.key, .str k.text)
  | .member k => (.key, .str k.text)
  | .idx i => (.index, .int i)

def pathSegsS (c : Ctx) : List Seg := c.anc.map (fun e => segSOfPref e.2)

theorem pathSegsS_eseg (c : Ctx) : (pathSegsS c).map ESeg.ofSeg = pathSegs c := by
  simp only [pathSegsS, pathSegs, List.map_map]
  apply List.map_congr_left
  intro e _
  obtain ⟨a, pr⟩ := e
  cases pr <;> rfl

end W1
end Ypv
