import Ypv.Model.Parser
/-!
# Basic facts about the parser model

`int(str(i))`, the loop over a concatenated text, and the states the simulation of ParserSim.lean
passes through: nothing pending (`LitOK`), between segments (`Inv`), directly inside `[ ]` (`InBr`).
-/
namespace Ypv

/-! ## Python `int(str(i))` -/

theorem isDigit_of_core {c : Char} (h : c.isDigit = true) : isDigit c = true := by
  simp only [Char.isDigit, Bool.and_eq_true, decide_eq_true_eq] at h
  simp only [isDigit, Bool.and_eq_true, decide_eq_true_eq]
  exact ⟨by
    show (48 : UInt32) ≤ c.val
    exact h.1, h.2⟩

theorem digitsUS_digits (l : Str) (hl : ∀ c ∈ l, c.isDigit = true) (acc : Nat) (prev : Bool)
    (hne : l ≠ [] ∨ prev = true) :
    digitsUS l acc prev = some (Nat.ofDigitChars 10 l acc) := by
  induction l generalizing acc prev with
  | nil => simp_all [digitsUS]
  | cons c cs ih =>
    have hc := isDigit_of_core (hl c (by simp))
    simp only [digitsUS, hc, ↓reduceIte]
    rw [ih (fun d hd => hl d (by simp [hd])) _ true (Or.inr rfl)]
    simp [Nat.ofDigitChars_cons, digitVal, Nat.mul_comm]

theorem not_ws_of_digit {c : Char} (h : c.isDigit = true) : isPyWs c = false := by
  simp only [Char.isDigit, Bool.and_eq_true, decide_eq_true_eq] at h
  simp only [isPyWs, Bool.or_eq_false_iff, decide_eq_false_iff_not]
  refine ⟨⟨⟨⟨⟨⟨⟨⟨⟨?_, ?_⟩, ?_⟩, ?_⟩, ?_⟩, ?_⟩, ?_⟩, ?_⟩, ?_⟩, ?_⟩ <;>
    (rintro rfl; revert h; decide)

theorem dropWhile_self {p : Char → Bool} {l : Str} (h : ∀ c ∈ l, p c = false) : l.dropWhile p = l := by
  cases l with
  | nil => rfl
  | cons c cs => simp [List.dropWhile, h c (by simp)]

theorem stripWs_self {l : Str} (h : ∀ c ∈ l, isPyWs c = false) : stripWs l = l := by
  unfold stripWs
  rw [dropWhile_self h, dropWhile_self (by simpa using h)]
  simp

theorem natDigits_digit (n : Nat) : ∀ c ∈ natDigits n, c.isDigit = true :=
  fun _ hc => Nat.isDigit_of_mem_toDigits (by decide) (by decide) hc

theorem pyInt_pyStrInt (i : Int) : pyInt? (pyStrInt i) = some i := by
  have hd := natDigits_digit i.natAbs
  have hne : natDigits i.natAbs ≠ [] := Nat.toDigits_ne_nil
  have hval : digitsUS (natDigits i.natAbs) 0 false = some i.natAbs := by
    rw [digitsUS_digits _ hd 0 false (Or.inl hne)]
    simp [natDigits]
  unfold pyStrInt
  split
  · rename_i hneg
    have hws : ∀ c ∈ '-' :: natDigits i.natAbs, isPyWs c = false := by
      intro c hc
      rcases List.mem_cons.mp hc with rfl | hc
      · decide
      · exact not_ws_of_digit (hd c hc)
    simp only [pyInt?, stripWs_self hws, hval]
    simp; omega
  · rename_i hneg
    have hws : ∀ c ∈ natDigits i.natAbs, isPyWs c = false := fun c hc => not_ws_of_digit (hd c hc)
    unfold pyInt?
    rw [stripWs_self hws]
    cases hx : natDigits i.natAbs with
    | nil => exact absurd hx hne
    | cons c cs =>
      have hcd : c.isDigit = true := hd c (by simp [hx])
      have h1 : c ≠ '-' := by rintro rfl; revert hcd; decide
      have h2 : c ≠ '+' := by rintro rfl; revert hcd; decide
      rw [hx] at hval
      split
      · rename_i heq; simp at heq; exact absurd heq.1 h1
      · rename_i heq; simp at heq; exact absurd heq.1 h2
      · simp only [hval]; simp; omega

theorem pyStrInt_chars (i : Int) : ∀ c ∈ pyStrInt i, c = '-' ∨ c.isDigit = true := by
  intro c hc
  unfold pyStrInt at hc
  split at hc
  · rcases List.mem_cons.mp hc with rfl | hc
    · exact Or.inl rfl
    · exact Or.inr (natDigits_digit _ c hc)
  · exact Or.inr (natDigits_digit _ c hc)

theorem pyStrInt_ne_nil (i : Int) : pyStrInt i ≠ [] := by
  unfold pyStrInt
  split
  · simp
  · exact Nat.toDigits_ne_nil

/-! ## The parser loop -/

theorem run_append (sep : Char) (strip : Bool) (st : PState) (xs ys : List Char) :
    run sep strip st (xs ++ ys) = (match run sep strip st xs with
      | .ok st' => run sep strip st' ys
      | .error e => .error e) := by
  induction xs generalizing st with
  | nil => simp [run]
  | cons x xs ih =>
    simp only [List.cons_append, run]
    cases step sep strip st x with
    | error e => simp
    | ok st' => simpa using ih st'

theorem run_append_ok {sep : Char} {strip : Bool} {st st' : PState} {xs : List Char}
    (h : run sep strip st xs = .ok st') (ys : List Char) :
    run sep strip st (xs ++ ys) = run sep strip st' ys := by
  rw [run_append, h]

theorem normOriginal_of_nonblank {t : Str} (h : ∃ c ∈ t, isPyWs c = false) : normOriginal t = t := by
  obtain ⟨c, hc, hw⟩ := h
  unfold normOriginal
  have : t.all isPyWs = false := by
    simp only [List.all_eq_false]
    exact ⟨c, hc, by simp [hw]⟩
  simp [this]

/-- no flag of the state machine is pending: the next character is read on its own merits -/
structure LitOK (st : PState) : Prop where
  esc : st.escapeNext = false
  rx : st.capturingRegex = false
  srd : st.seekingRegexDelim = false
  ncm : st.nextCharMustBe = none

/-- the state after a character has been taken literally into the pending text -/
def PState.lit (st : PState) (c : Char) : PState :=
  { st with count := st.stack.length, segId := st.segId ++ [c],
            seekingAnchorMark := false, seekingCollectorOp := false }

/-- the state after a whole text has been taken literally -/
def PState.lits (st : PState) (k : Str) : PState := k.foldl PState.lit st

theorem lits_eq (st : PState) {k : Str} (hk : k ≠ []) :
    st.lits k = { st with count := st.stack.length, segId := st.segId ++ k,
                          seekingAnchorMark := false, seekingCollectorOp := false } := by
  obtain ⟨c, k, rfl⟩ := List.exists_cons_of_ne_nil hk
  clear hk
  induction k generalizing st c with
  | nil => simp [PState.lits, PState.lit]
  | cons d ds ih =>
    rw [show st.lits (c :: d :: ds) = (st.lit c).lits (d :: ds) from rfl, ih]
    simp [PState.lit]

theorem lits_append (st : PState) (a b : Str) : st.lits (a ++ b) = (st.lits a).lits b := by
  simp [PState.lits]

theorem lits_flags {st : PState} {k : Str} (hk : k ≠ []) :
    (st.lits k).seekingAnchorMark = false ∧ (st.lits k).seekingCollectorOp = false := by
  rw [lits_eq st hk]; exact ⟨rfl, rfl⟩

/-- where neither an anchor mark nor a collector operator is looked for, literal text only grows the
pending text (and re-sets the counter) -/
theorem lits_fields (st : PState) (k : Str) (ha : st.seekingAnchorMark = false)
    (hc : st.seekingCollectorOp = false) :
    ∃ cnt, st.lits k = { st with count := cnt, segId := st.segId ++ k } := by
  cases k with
  | nil => exact ⟨st.count, by simp [PState.lits]⟩
  | cons c k => exact ⟨st.stack.length, by rw [lits_eq st (List.cons_ne_nil c k)]; cases st; simp_all⟩

/-! ## Between segments -/

structure Quiet (st : PState) : Prop where
  lit : LitOK st
  stack : st.stack = []
  lvl : st.collectorLevel = 0
  cop : st.collectorOp = .none
  cnt : st.count = 0

/-- the segments recorded so far, the pending key-like text (if any) included -/
def flushedSegs (st : PState) : Except PErr (List Seg) :=
  if st.segId ≠ [] then
    match expandSplats st.segId (keyType st.segType) with
    | .ok sg => .ok (sg :: st.segs).reverse
    | .error e => .error e
  else .ok st.segs.reverse

/-- "between segments": nothing is open, and the segments read so far are `ss`.
`ac` = the last segment was a collector (an operator may follow). -/
structure Inv (ac : Bool) (st : PState) (ss : List Seg) : Prop where
  q : Quiet st
  sco : st.seekingCollectorOp = ac
  fl : flushedSegs st = .ok ss

theorem init_inv (b : Bool) : Inv false ({ seekingAnchorMark := b } : PState) [] :=
  ⟨⟨⟨rfl, rfl, rfl, rfl⟩, rfl, rfl, rfl, rfl⟩, rfl, rfl⟩

theorem finish_of_inv {ac : Bool} {st : PState} {ss : List Seg} (h : Inv ac st ss) :
    finish st = .ok ss := by
  obtain ⟨⟨⟨e, r, s, n⟩, hs, hl, ho, hc⟩, _, hf⟩ := h
  unfold finish
  unfold flushedSegs at hf
  simp only [hl, r, hc]
  by_cases hid : st.segId = []
  · simp [hid] at hf ⊢; exact hf
  · simp [hid] at hf ⊢
    cases hx : expandSplats st.segId (keyType st.segType) with
    | error e => simp [hx] at hf
    | ok sg => simp [hx] at hf ⊢; exact hf

theorem flushSeg_of {st : PState} {ss : List Seg} (h : flushedSegs st = .ok ss) :
    flushSeg st = .ok { st with segs := ss.reverse, segId := [] } := by
  unfold flushedSegs at h
  unfold flushSeg
  by_cases hid : st.segId = []
  · rw [if_neg (not_not_intro hid)] at h ⊢
    cases h
    rw [List.reverse_reverse, ← hid]
  · simp [hid] at h ⊢
    cases hx : expandSplats st.segId (keyType st.segType) with
    | error e => simp [hx] at h
    | ok sg =>
      simp [hx] at h ⊢
      subst h
      simp

theorem expandSplats_plain {k : Str} (h : k.contains '*' = false) (t : SegType) :
    expandSplats k t = .ok (t, .str k) := by
  have : k.count '*' = 0 := by
    rw [List.count_eq_zero]
    simpa using h
  simp [expandSplats, this]

theorem pre0_id {st : PState} (c : Char) (hn : st.nextCharMustBe = none)
    (hc : st.count = st.stack.length) : pre0 st c = st := by
  cases st
  simp_all [pre0]

/-! ## Directly inside `[ ]` -/

/-- the state right after a top-level `[` -/
def opened (st : PState) (ss : List Seg) : PState :=
  { st with segs := ss.reverse, segId := [], segType := some .index, seekingCollectorOp := false,
            seekingAnchorMark := true, searchInverted := false, searchMethod := none,
            searchAttr := [], stack := ['['], count := 1 }

/-- directly inside a top-level `[ ]` -/
structure InBr (st : PState) (ss : List Seg) : Prop where
  esc : st.escapeNext = false
  rx : st.capturingRegex = false
  srd : st.seekingRegexDelim = false
  ncm : st.nextCharMustBe = none ∨ st.nextCharMustBe = some ']'
  stack : st.stack = ['[']
  segs : st.segs = ss.reverse
  lvl : st.collectorLevel = 0
  cop : st.collectorOp = .none
  sco : st.seekingCollectorOp = false

theorem opened_inBr {ac : Bool} {st : PState} {ss : List Seg} (h : Inv ac st ss) :
    InBr (opened st ss) ss ∧ LitOK (opened st ss) := by
  obtain ⟨⟨⟨e, r, s, n⟩, hs, hl, ho, hc⟩, hsc, hf⟩ := h
  exact ⟨⟨e, r, s, Or.inl n, rfl, rfl, hl, ho, rfl⟩, ⟨e, r, s, n⟩⟩

end Ypv
