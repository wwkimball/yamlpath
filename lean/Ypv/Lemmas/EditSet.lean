import Ypv.Lemmas.EditCreate
/-!
# Lemmas about the replacement walk `Node.mapAt` (C03): lookup after the walk, the one-shot
specification `setSpec` as the sequence of steps, anchors after it, decidable forms of the model-class
predicates
-/
namespace Ypv

theorem putScalar_anchor (s : Scalar) (n : Node) : (putScalar s n).anchor = n.anchor := rfl

section
variable (p : Addr → Node → Bool) (f : Node → Node)

theorem mapAt_anchor (n : Node) : (n.mapAt p f).anchor = n.anchor := by
  cases n <;> rfl

/-- What the walk makes of the child `c` under the reference `r`. -/
def mapAtChild (r : Ref) (c : Node) : Node :=
  if p [r] c then f c else c.mapAt (fun y => p (r :: y)) f

theorem mapAtList_cons (i : Nat) (c : Node) (cs : List Node) :
    mapAtList p f i (c :: cs) = mapAtChild p f (.idx i) c :: mapAtList p f (i + 1) cs := rfl

theorem mapAtEntries_cons (k : Key) (c : Node) (es : List (Key × Node)) :
    mapAtEntries p f ((k, c) :: es) = (k, mapAtChild p f (.key k) c) :: mapAtEntries p f es := rfl

theorem mapAtEntries_keys (es : List (Key × Node)) : (mapAtEntries p f es).map Prod.fst = es.map Prod.fst := by
  induction es with
  | nil => rfl
  | cons e es ih => exact congrArg (e.1 :: ·) ih

end

theorem mapAtChild_none {p : Addr → Node → Bool} {f : Node → Node} {r : Ref} {c : Node}
    (h : ∀ y n, p y n = false) (ih : c.mapAt (fun y => p (r :: y)) f = c) : mapAtChild p f r c = c := by
  rw [mapAtChild, h, if_neg Bool.false_ne_true, ih]

mutual
theorem mapAt_none : (d : Node) → (p : Addr → Node → Bool) → (f : Node → Node) →
    (∀ y n, p y n = false) → d.mapAt p f = d
  | .scalar _ _ => fun _ _ _ => rfl
  | .set _ _ => fun _ _ _ => rfl
  | .seq a items => fun p f h => congrArg (Node.seq a) (mapAtList_none items p f 0 h)
  | .map a es => fun p f h => congrArg (Node.map a) (mapAtEntries_none es p f h)
theorem mapAtList_none : (cs : List Node) → (p : Addr → Node → Bool) → (f : Node → Node) → (i : Nat) →
    (∀ y n, p y n = false) → mapAtList p f i cs = cs
  | [] => fun _ _ _ _ => rfl
  | c :: cs => fun p f i h => by
    rw [mapAtList_cons, mapAtChild_none h (mapAt_none c _ f fun _ n => h _ n), mapAtList_none cs p f (i + 1) h]
theorem mapAtEntries_none : (es : List (Key × Node)) → (p : Addr → Node → Bool) → (f : Node → Node) →
    (∀ y n, p y n = false) → mapAtEntries p f es = es
  | [] => fun _ _ _ => rfl
  | (k, c) :: es => fun p f h => by
    rw [mapAtEntries_cons, mapAtChild_none h (mapAt_none c _ f fun _ n => h _ n), mapAtEntries_none es p f h]
end

/-- One child under two passes: `q` sees the child through its anchor only, and neither `putScalar`
nor the walk changes an anchor. -/
theorem mapAtChild_mapAtChild (s : Scalar) (p q : Addr → Node → Bool) (r : Ref) (c : Node)
    (hq : ∀ y n n', n.anchor = n'.anchor → q y n = q y n')
    (ih : (c.mapAt (fun y => p (r :: y)) (putScalar s)).mapAt (fun y => q (r :: y)) (putScalar s)
      = c.mapAt (fun y n => p (r :: y) n || q (r :: y) n) (putScalar s)) :
    mapAtChild q (putScalar s) r (mapAtChild p (putScalar s) r c)
      = mapAtChild (fun y n => p y n || q y n) (putScalar s) r c := by
  unfold mapAtChild
  -- the `Decidable` instances still hold `(fun y n => p y n || q y n) [r] c` unreduced, which `cases` cannot
  -- abstract; plain `dsimp only` leaves instance arguments alone
  dsimp +instances only
  cases p [r] c
  · -- the walk with `p` entered `c` and kept its anchor, so `q` judges the result as it judges `c`
    rw [if_neg Bool.false_ne_true, hq [r] _ c (mapAt_anchor ..), Bool.false_or]
    cases q [r] c
    · rw [if_neg Bool.false_ne_true, if_neg Bool.false_ne_true]; exact ih
    · rw [if_pos rfl, if_pos rfl]; exact congrArg (Node.scalar · s) (mapAt_anchor ..)
  · rw [if_pos rfl, Bool.true_or, if_pos rfl]
    cases q [r] (putScalar s c) <;> rfl

mutual
/-- Two passes are one pass with the disjunction, when the second predicate looks at a node only
through its anchor and the replacement is `putScalar s`. -/
theorem mapAt_mapAt : (d : Node) → (p q : Addr → Node → Bool) → (s : Scalar) →
    (∀ y n n', n.anchor = n'.anchor → q y n = q y n') →
    (d.mapAt p (putScalar s)).mapAt q (putScalar s) = d.mapAt (fun y n => p y n || q y n) (putScalar s)
  | .scalar _ _ => fun _ _ _ _ => rfl
  | .set _ _ => fun _ _ _ _ => rfl
  | .seq a items => fun p q s hq => congrArg (Node.seq a) (mapAtList_mapAtList items p q s 0 hq)
  | .map a es => fun p q s hq => congrArg (Node.map a) (mapAtEntries_mapAtEntries es p q s hq)
theorem mapAtList_mapAtList : (cs : List Node) → (p q : Addr → Node → Bool) → (s : Scalar) → (i : Nat) →
    (∀ y n n', n.anchor = n'.anchor → q y n = q y n') →
    mapAtList q (putScalar s) i (mapAtList p (putScalar s) i cs)
      = mapAtList (fun y n => p y n || q y n) (putScalar s) i cs
  | [] => fun _ _ _ _ _ => rfl
  | c :: cs => fun p q s i hq => by
    rw [mapAtList_cons, mapAtList_cons, mapAtList_cons, mapAtList_mapAtList cs p q s (i + 1) hq,
      mapAtChild_mapAtChild s p q _ c hq (mapAt_mapAt c _ _ s fun _ n n' h => hq _ n n' h)]
theorem mapAtEntries_mapAtEntries : (es : List (Key × Node)) → (p q : Addr → Node → Bool) → (s : Scalar) →
    (∀ y n n', n.anchor = n'.anchor → q y n = q y n') →
    mapAtEntries q (putScalar s) (mapAtEntries p (putScalar s) es)
      = mapAtEntries (fun y n => p y n || q y n) (putScalar s) es
  | [] => fun _ _ _ _ => rfl
  | (k, c) :: es => fun p q s hq => by
    rw [mapAtEntries_cons, mapAtEntries_cons, mapAtEntries_cons, mapAtEntries_mapAtEntries es p q s hq,
      mapAtChild_mapAtChild s p q _ c hq (mapAt_mapAt c _ _ s fun _ n n' h => hq _ n n' h)]
end

/-! ### Looking a node up after the walk (`get?` through `mapAt`) -/

theorem isScalar_get?_cons {n : Node} (h : n.isScalar = true) (r : Ref) (rs : Addr) :
    n.get? (r :: rs) = none := by
  cases n with
  | scalar a v => rfl
  | _ => cases h

section
variable (p : Addr → Node → Bool) (f : Node → Node)

theorem mapAt_isScalar (n : Node) : (n.mapAt p f).isScalar = n.isScalar := by
  cases n <;> rfl

theorem mapAt_of_isScalar {n : Node} (h : n.isScalar = true) : n.mapAt p f = n := by
  cases n with
  | scalar a v => rfl
  | _ => cases h

theorem mapAtList_getElem? (cs : List Node) (i j : Nat) :
    (mapAtList p f i cs)[j]? = (cs[j]?).map (mapAtChild p f (.idx (i + j))) := by
  induction cs generalizing i j with
  | nil => rfl
  | cons c cs ih =>
    cases j with
    | zero => rfl
    | succ j => exact (ih (i + 1) j).trans (by rw [Nat.add_right_comm]; rfl)

theorem mapAtEntries_lookup (k : Key) (es : List (Key × Node)) :
    (mapAtEntries p f es).lookup k = (es.lookup k).map (mapAtChild p f (.key k)) := by
  induction es with
  | nil => rfl
  | cons e es ih =>
    obtain ⟨k', c⟩ := e
    rw [mapAtEntries_cons]
    by_cases hk : k' = k
    · subst hk; rw [List.lookup_cons_self, List.lookup_cons_self]; rfl
    · rw [lookup_cons_ne hk, lookup_cons_ne hk]; exact ih

theorem child?_mapAt (d : Node) (r : Ref) (hr : ∀ k, r ≠ .member k) :
    (d.mapAt p f).child? r = (d.child? r).map (mapAtChild p f r) := by
  cases r with
  | member k => exact absurd rfl (hr k)
  | idx i => cases d with
    | seq a items => have := mapAtList_getElem? p f items 0 i; rwa [Nat.zero_add] at this
    | _ => rfl
  | key k => cases d with
    | map a es => exact mapAtEntries_lookup p f k es
    | _ => rfl

theorem child?_mapAt_member (d : Node) (k : Key) : (d.mapAt p f).child? (.member k) = d.child? (.member k) := by
  cases d <;> rfl

end

theorem child?_member {d : Node} {k : Key} {c : Node} (h : d.child? (.member k) = some c) :
    ∃ v, c = .scalar none v := by
  cases d with
  | set a ms =>
    change (if _ then _ else _) = _ at h
    split at h
    · cases h; exact ⟨_, rfl⟩
    · cases h
  | _ => cases h

theorem get?_member_cons (d : Node) (k : Key) (r : Ref) (t : Addr) : d.get? (.member k :: r :: t) = none := by
  rw [get?_cons]
  cases hc : d.child? (.member k) with
  | none => rfl
  | some c => obtain ⟨v, rfl⟩ := child?_member hc; rfl

/-- What the walk makes of the node at address `b`. -/
def imageAt (p : Addr → Node → Bool) (s : Scalar) (b : Addr) (n : Node) : Node :=
  if lastIsMember b then n
  else if p b n then putScalar s n else n.mapAt (fun y => p (b ++ y)) (putScalar s)

theorem imageAt_anchor (p : Addr → Node → Bool) (s : Scalar) (b : Addr) (n : Node) :
    (imageAt p s b n).anchor = n.anchor := by
  unfold imageAt
  cases lastIsMember b
  · cases p b n
    · exact mapAt_anchor _ _ n
    · rfl
  · rfl

theorem imageAt_isScalar (p : Addr → Node → Bool) (s : Scalar) (b : Addr) (n : Node)
    (h : p b n = true → n.isScalar = true) : (imageAt p s b n).isScalar = n.isScalar := by
  unfold imageAt
  cases lastIsMember b
  · cases hp : p b n
    · exact mapAt_isScalar _ _ n
    · exact (h hp).symm
  · rfl

theorem lastIsMember_cons_cons (r r' : Ref) (t : Addr) : lastIsMember (r :: r' :: t) = lastIsMember (r' :: t) := by
  cases r <;> rfl

theorem imageAt_cons (p : Addr → Node → Bool) (s : Scalar) (r r' : Ref) (t : Addr) :
    imageAt (fun y => p (r :: y)) s (r' :: t) = imageAt p s (r :: r' :: t) := by
  funext n; unfold imageAt; rw [lastIsMember_cons_cons]; rfl

/-- **`get?` through the walk.**  When every target is a scalar, the walk keeps the shape of the
document: the node at any address `b` afterwards is the image of the node that was there. -/
theorem get?_mapAt (s : Scalar) : ∀ (b : Addr) (d : Node) (p : Addr → Node → Bool), b ≠ [] →
    (∀ y n, y ≠ [] → d.get? y = some n → p y n = true → n.isScalar = true) →
    (d.mapAt p (putScalar s)).get? b = (d.get? b).map (imageAt p s b) := by
  intro b
  induction b with
  | nil => exact fun _ _ h _ => absurd rfl h
  | cons r t ih =>
    intro d p _ hts
    by_cases hr : ∃ k, r = .member k
    · -- a set and its members are left alone
      obtain ⟨k, rfl⟩ := hr
      cases t with
      | nil =>
        rw [get?_cons, get?_cons, child?_mapAt_member]
        cases d.child? (.member k) <;> rfl
      | cons r' t => rw [get?_member_cons, get?_member_cons]; rfl
    · have hr' : ∀ k, r ≠ .member k := fun k h => hr ⟨k, h⟩
      rw [get?_cons, get?_cons, child?_mapAt p _ d r hr']
      cases hc : d.child? r with
      | none => rfl
      | some c =>
        have hgc : ∀ y, d.get? (r :: y) = c.get? y := fun y => by rw [get?_cons, hc]
        cases t with
        | nil => cases r with
          | member k => exact absurd rfl (hr' k)
          | _ => rfl
        | cons r' t =>
          show (mapAtChild p (putScalar s) r c).get? (r' :: t) = (c.get? (r' :: t)).map _
          unfold mapAtChild
          by_cases hp : p [r] c = true
          · -- a replaced child was a scalar: nothing below it, before or after
            rw [if_pos hp, isScalar_get?_cons (hts [r] c (List.cons_ne_nil _ _) (hgc []) hp)]; rfl
          · rw [if_neg hp, ih c _ (List.cons_ne_nil _ _)
              fun y n _ hg hpy => hts (r :: y) n (List.cons_ne_nil _ _) ((hgc y).trans hg) hpy, imageAt_cons]

/-! ### The one-shot specification and the sequence of steps -/

theorem isRef_eq_isTarget (d : Node) (a : Addr) (n : Node) (h : d.get? a = some n) :
    isRef a n.anchor = isTarget d [a] := by
  funext y m
  unfold isRef isTarget matchedAnchors
  rw [List.filterMap_cons, h, Option.bind_some, List.contains_cons, List.contains_nil, Bool.or_false]
  cases n.anchor with
  | none => cases m.anchor <;> rfl
  | some x =>
    cases m.anchor with
    | none => rfl
    | some x' =>
      show (y == a || (true && (some x' == some x))) = (y == a || [x].contains x')
      rw [Bool.true_and, List.contains_cons, List.contains_nil, Bool.or_false]
      congr 1

theorem isTarget_cons (d : Node) (a : Addr) (rest : List Addr) :
    (fun y n => isTarget d [a] y n || isTarget d rest y n) = isTarget d (a :: rest) := by
  funext y n
  show _ = isTarget d ([a] ++ rest) y n
  unfold isTarget matchedAnchors
  rw [List.contains_append, List.filterMap_append]
  cases n.anchor with
  | none => rw [Bool.or_false, Bool.or_false, Bool.or_false]
  | some x =>
    dsimp only
    rw [List.contains_append, Bool.or_assoc, Bool.or_assoc, Bool.or_left_comm (rest.contains y)]

theorem setSpec_nil (d : Node) (s : Scalar) : setSpec d [] s = d :=
  mapAt_none d _ _ fun y n => by unfold isTarget; cases n.anchor <;> rfl

theorem matchedScalars_tail {d : Node} {a : Addr} {rest : List Addr} (h : MatchedScalars d (a :: rest)) :
    MatchedScalars d [a] ∧ MatchedScalars d rest :=
  ⟨fun b hb => h b (List.mem_singleton.mp hb ▸ List.mem_cons_self), fun b hb => h b (List.mem_cons_of_mem _ hb)⟩

section
variable {d : Node} {addrs : List Addr} (hm : MatchedScalars d addrs) (hs : ScalarAnchors d) (s : Scalar)
include hm hs

theorem targets_scalar (y : Addr) (n : Node) (hy : y ≠ []) (hg : d.get? y = some n)
    (ht : isTarget d addrs y n = true) : n.isScalar = true := by
  rcases Bool.or_eq_true_iff.mp ht with ht | ht
  · obtain ⟨_, _, n', hg', hsc⟩ := hm y (List.contains_iff_mem.mp ht)
    cases hg.symm.trans hg'; exact hsc
  · cases hn : n.anchor with
    | none => rw [hn] at ht; cases ht
    | some x => exact hs y n hy hg (by rw [hn]; rfl)

theorem get?_setSpec (b : Addr) (hb : b ≠ []) :
    (setSpec d addrs s).get? b = (d.get? b).map (imageAt (isTarget d addrs) s b) :=
  get?_mapAt s b d _ hb (targets_scalar hm hs)

theorem get?_setSpec_inv (b : Addr) (hb : b ≠ []) (n' : Node) (h : (setSpec d addrs s).get? b = some n') :
    ∃ n, d.get? b = some n ∧ n' = imageAt (isTarget d addrs) s b n ∧ n'.anchor = n.anchor
      ∧ n'.isScalar = n.isScalar := by
  rw [get?_setSpec hm hs s b hb] at h
  obtain ⟨n, hg, rfl⟩ := Option.map_eq_some_iff.mp h
  exact ⟨n, hg, rfl, imageAt_anchor .., imageAt_isScalar _ _ _ _ (targets_scalar hm hs b n hb hg)⟩

theorem scalarAnchors_setSpec : ScalarAnchors (setSpec d addrs s) := by
  intro y n' hy hg ha
  obtain ⟨n, hgn, _, hanc, hsc⟩ := get?_setSpec_inv hm hs s y hy n' hg
  rw [hsc]; exact hs y n hy hgn (hanc ▸ ha)

theorem matchedScalars_setSpec {rest : List Addr} (hr : MatchedScalars d rest) :
    MatchedScalars (setSpec d addrs s) rest := by
  intro a ha
  obtain ⟨h1, h2, n, hg, hsc⟩ := hr a ha
  refine ⟨h1, h2, imageAt (isTarget d addrs) s a n, ?_, ?_⟩
  · rw [get?_setSpec hm hs s a h1, hg]; rfl
  · rw [imageAt_isScalar _ _ _ _ (targets_scalar hm hs a n h1 hg)]; exact hsc

/-- the specification keeps every anchor where it is, so later targets are the same -/
theorem isTarget_setSpec (rest : List Addr) : isTarget (setSpec d addrs s) rest = isTarget d rest := by
  have : matchedAnchors (setSpec d addrs s) rest = matchedAnchors d rest :=
    congrArg (List.filterMap · rest) <| funext fun b => by
      cases b with
      | nil => exact mapAt_anchor ..
      | cons r t =>
        rw [get?_setSpec hm hs s (r :: t) (List.cons_ne_nil _ _)]
        cases d.get? (r :: t) with
        | none => rfl
        | some n => exact imageAt_anchor ..
  funext y n
  unfold isTarget
  rw [this]

end

/-- Two consecutive specifications are one (the composition step of `set_eq_spec`). -/
theorem setSpec_setSpec {d : Node} {a : Addr} {rest : List Addr} (hm : MatchedScalars d (a :: rest))
    (hs : ScalarAnchors d) (s : Scalar) :
    setSpec (setSpec d [a] s) rest s = setSpec d (a :: rest) s := by
  show (setSpec d [a] s).mapAt (isTarget (setSpec d [a] s) rest) (putScalar s) = _
  rw [isTarget_setSpec (matchedScalars_tail hm).1 hs]
  unfold setSpec
  rw [mapAt_mapAt d _ _ s fun y n n' hh => by unfold isTarget; rw [hh], isTarget_cons]

/-! ### Anchors after the specification -/

/-- a set member is never anchored -/
theorem get?_member_anchor : ∀ (y : Addr) (d n : Node), lastIsMember y = true → d.get? y = some n →
    n.anchor = none := fun y d n hm hg =>
  get?_induction (P := fun _ y n => lastIsMember y = true → n.anchor = none) (fun _ h => nomatch h)
    (fun d r c t n hc hg ih hm => by
      cases t with
      | nil =>
        cases hg
        cases r with
        | member k => obtain ⟨v, rfl⟩ := child?_member hc; rfl
        | _ => cases hm
      | cons r' t => exact ih ((lastIsMember_cons_cons r r' t).symm.trans hm))
    y d n hg hm

theorem lastIsMember_of_anchored {y : Addr} {d n : Node} (hg : d.get? y = some n) (ha : n.anchor.isSome = true) :
    lastIsMember y = false :=
  Bool.eq_false_iff.mpr fun hm => by rw [get?_member_anchor y d n hm hg] at ha; cases ha

/-- an anchored node of the model class is replaced iff its anchor name is matched -/
theorem imageAt_anchored {d : Node} {addrs : List Addr} (hs : ScalarAnchors d) (s : Scalar)
    {y : Addr} {n : Node} {x : Str} (hy : y ≠ []) (hg : d.get? y = some n) (hx : n.anchor = some x) :
    imageAt (isTarget d addrs) s y n = if (matchedAnchors d addrs).contains x then putScalar s n else n := by
  have ha : n.anchor.isSome = true := by rw [hx]; rfl
  have ht : isTarget d addrs y n = (matchedAnchors d addrs).contains x := by
    unfold isTarget
    rw [hx]
    cases hc : addrs.contains y with
    | false => rfl
    | true =>
      -- a matched node's anchor name is among the matched anchors
      exact (List.contains_iff_mem.mpr (List.mem_filterMap.mpr
        ⟨y, List.contains_iff_mem.mp hc, by rw [hg]; exact hx⟩)).symm
  rw [imageAt, lastIsMember_of_anchored hg ha, ht, mapAt_of_isScalar _ _ (hs y n hy hg ha)]
  rfl

/-! ### A checkable form of the model-class predicates (for concrete documents) -/

mutual
/-- all nodes strictly below the root, in document order -/
def Node.subnodes : Node → List Node
  | .seq _ items => subnodesList items
  | .map _ es => subnodesEntries es
  | .set _ _ => []
  | .scalar _ _ => []
def subnodesList : List Node → List Node
  | [] => []
  | c :: cs => c :: (c.subnodes ++ subnodesList cs)
def subnodesEntries : List (Key × Node) → List Node
  | [] => []
  | (_, c) :: es => c :: (c.subnodes ++ subnodesEntries es)
end

theorem subnodes_subset_list {c : Node} {cs : List Node} (h : c ∈ cs) : c :: c.subnodes ⊆ subnodesList cs := by
  induction cs with
  | nil => cases h
  | cons c' cs ih =>
    rcases List.mem_cons.mp h with rfl | h
    · exact List.cons_subset_cons _ (List.subset_append_left _ _)
    · exact List.subset_cons_of_subset _ (List.subset_append_of_subset_right _ (ih h))

theorem subnodes_subset_entries {k : Key} : ∀ (es : List (Key × Node)) (c : Node), es.lookup k = some c →
    c :: c.subnodes ⊆ subnodesEntries es :=
  lookup_induction (fun _ _ => List.cons_subset_cons _ (List.subset_append_left _ _))
    (fun _ _ _ _ _ _ ih => List.subset_cons_of_subset _ (List.subset_append_of_subset_right _ ih))

theorem subnodes_subset_child {d c : Node} {r : Ref} (hr : ∀ k, r ≠ .member k) (h : d.child? r = some c) :
    c :: c.subnodes ⊆ d.subnodes := by
  cases r with
  | member k => exact absurd rfl (hr k)
  | idx i => cases d with
    | seq a items => exact subnodes_subset_list (List.mem_of_getElem? h)
    | _ => cases h
  | key k => cases d with
    | map a es => exact subnodes_subset_entries es c h
    | _ => cases h

/-- every node `get?` finds below the root (set members aside) is listed by `subnodes` -/
theorem get?_mem_below : ∀ (y : Addr) (d n : Node), y ≠ [] → lastIsMember y = false → d.get? y = some n →
    n ∈ d.subnodes := fun y d n hy hm hg =>
  get?_induction (P := fun d y n => y ≠ [] → lastIsMember y = false → n ∈ d.subnodes) (fun _ h => absurd rfl h)
    (fun d r c t n hc hg ih _ hm => by
      by_cases hr : ∃ k, r = .member k
      · obtain ⟨k, rfl⟩ := hr
        obtain ⟨v, rfl⟩ := child?_member hc
        cases t with
        | nil => cases hm
        | cons r' t => cases hg
      · have hcb := subnodes_subset_child (fun k h => hr ⟨k, h⟩) hc
        cases t with
        | nil => cases hg; exact hcb List.mem_cons_self
        | cons r' t =>
          exact hcb (List.mem_cons_of_mem _ (ih (List.cons_ne_nil _ _) ((lastIsMember_cons_cons r r' t).symm.trans hm))))
    y d n hg hy hm

theorem scalarAnchors_of_below (d : Node)
    (h : d.subnodes.all (fun n => !n.anchor.isSome || n.isScalar) = true) : ScalarAnchors d := by
  intro y n hy hg ha
  have := List.all_eq_true.mp h n (get?_mem_below y d n hy (lastIsMember_of_anchored hg ha) hg)
  rw [ha] at this
  exact this

theorem anchorWF_of_below (d : Node)
    (h : d.subnodes.all (fun n => d.subnodes.all (fun n' =>
      !n.anchor.isSome || !(n.anchor == n'.anchor) || n == n')) = true) : AnchorWF d := by
  intro y y' n n' hy hy' hg hg' ha he
  have ha' : n'.anchor.isSome = true := he ▸ ha
  have h1 := List.all_eq_true.mp h n (get?_mem_below y d n hy (lastIsMember_of_anchored hg ha) hg)
  have h2 := List.all_eq_true.mp h1 n' (get?_mem_below y' d n' hy' (lastIsMember_of_anchored hg' ha') hg')
  rw [ha, he, beq_self_eq_true] at h2
  exact eq_of_beq h2

end Ypv
