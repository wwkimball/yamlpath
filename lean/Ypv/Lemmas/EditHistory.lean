import Ypv.Lemmas.Edit
import Ypv.Lemmas.EditSet
import Ypv.Lemmas.EditCreate
/-!
# Lemmas for histories on plain data (C03 `history_refines`)

`Node.plain` (anchors erased) commutes with the three kinds of edits; `Node.keysNodup`
(pairwise different mapping keys) is kept by all of them.
-/
namespace Ypv

theorem plain_anchor (n : Node) : n.plain.anchor = none := by
  cases n <;> rfl

theorem plain_putScalar (s : Scalar) (n : Node) : (putScalar s n).plain = putScalar s n.plain :=
  congrArg (Node.scalar · s) (plain_anchor n).symm

/-- `T` (addresses only) and `p` (addresses and nodes) agree on the nodes of `d` -/
def Agree (d : Node) (T : Addr → Bool) (p : Addr → Node → Bool) : Prop :=
  ∀ y n, y ≠ [] → d.get? y = some n → T y = p y n

theorem Agree.child {d c : Node} {r : Ref} {T : Addr → Bool} {p : Addr → Node → Bool} (ha : Agree d T p)
    (hc : d.child? r = some c) :
    T [r] = p [r] c ∧ Agree c (fun y => T (r :: y)) (fun y => p (r :: y)) :=
  ⟨ha [r] c (List.cons_ne_nil _ _) (by rw [get?_cons, hc]; rfl),
   fun y n _ hg => ha (r :: y) n (List.cons_ne_nil _ _) (by rw [get?_cons, hc]; exact hg)⟩

theorem keysNodupList_cons {c : Node} {cs : List Node} :
    keysNodupList (c :: cs) = true ↔ c.keysNodup = true ∧ keysNodupList cs = true := Bool.and_eq_true_iff

theorem keysNodupEntries_cons {k : Key} {c : Node} {es : List (Key × Node)} :
    keysNodupEntries ((k, c) :: es) = true ↔ c.keysNodup = true ∧ keysNodupEntries es = true :=
  Bool.and_eq_true_iff

theorem keysNodup_map {a : Option Str} {es : List (Key × Node)} :
    (Node.map a es).keysNodup = true ↔ keysDistinct (es.map Prod.fst) = true ∧ keysNodupEntries es = true :=
  Bool.and_eq_true_iff

theorem keysDistinct_cons {k : Key} {ks : List Key} :
    keysDistinct (k :: ks) = true ↔ k ∉ ks ∧ keysDistinct ks = true := by
  rw [← List.contains_iff_mem, Bool.not_eq_true, ← Bool.not_eq_true']; exact Bool.and_eq_true_iff

theorem lookup_of_mem_distinct {k : Key} {c : Node} {es : List (Key × Node)}
    (hd : keysDistinct (es.map Prod.fst) = true) (h : (k, c) ∈ es) : es.lookup k = some c := by
  induction es with
  | nil => cases h
  | cons e es ih =>
    obtain ⟨k', c'⟩ := e
    obtain ⟨hn, hd⟩ := keysDistinct_cons.mp hd
    rcases List.mem_cons.mp h with h1 | h2
    · cases h1; exact List.lookup_cons_self
    · rw [lookup_cons_ne fun (e : k' = k) => hn (e ▸ List.mem_map.mpr ⟨(k, c), h2, rfl⟩)]
      exact ih hd h2

theorem plain_mapAtChild (s : Scalar) {p : Addr → Node → Bool} {T : Addr → Bool} {r : Ref} {c : Node}
    (h0 : T [r] = p [r] c)
    (ih : (c.mapAt (fun y => p (r :: y)) (putScalar s)).plain
      = c.plain.mapAt (fun y _ => T (r :: y)) (putScalar s)) :
    (mapAtChild p (putScalar s) r c).plain = mapAtChild (fun y _ => T y) (putScalar s) r c.plain := by
  unfold mapAtChild
  dsimp +instances only  -- as in `mapAtChild_mapAtChild`
  rw [h0]
  cases p [r] c
  · exact ih
  · exact plain_putScalar s c

mutual
/-- Erasing anchors after the walk = the walk on the erased document with the targets given by
their addresses. -/
theorem plain_mapAt (s : Scalar) : (d : Node) → (p : Addr → Node → Bool) → (T : Addr → Bool) →
    d.keysNodup = true → Agree d T p →
    (d.mapAt p (putScalar s)).plain = d.plain.mapAt (fun y _ => T y) (putScalar s)
  | .scalar _ _ => fun _ _ _ _ => rfl
  | .set _ _ => fun _ _ _ _ => rfl
  | .seq a items => fun p T hk ha =>
    congrArg (Node.seq none) (plain_mapAtList s items p T 0 hk fun j c hj => by
      rw [Nat.zero_add]; exact ha.child (r := .idx j) hj)
  | .map a es => fun p T hk ha => by
    have hk := keysNodup_map.mp hk
    exact congrArg (Node.map none) (plain_mapAtEntries s es p T hk.2 fun k c hmem =>
      ha.child (r := .key k) (lookup_of_mem_distinct hk.1 hmem))
theorem plain_mapAtList (s : Scalar) : (cs : List Node) → (p : Addr → Node → Bool) → (T : Addr → Bool) →
    (i : Nat) → keysNodupList cs = true →
    (∀ j c, cs[j]? = some c → T [.idx (i + j)] = p [.idx (i + j)] c
      ∧ Agree c (fun y => T (.idx (i + j) :: y)) (fun y => p (.idx (i + j) :: y))) →
    plainList (mapAtList p (putScalar s) i cs) = mapAtList (fun y _ => T y) (putScalar s) i (plainList cs)
  | [] => fun _ _ _ _ _ => rfl
  | c :: cs => fun p T i hk h => by
    have hk := keysNodupList_cons.mp hk
    have h0 := h 0 c rfl
    have ih := plain_mapAtList s cs p T (i + 1) hk.2 fun j c' hj => by
      rw [Nat.add_right_comm]; exact h (j + 1) c' hj
    exact (congrArg (· :: _) (plain_mapAtChild s h0.1 (plain_mapAt s c _ _ hk.1 h0.2))).trans (congrArg (_ :: ·) ih)
theorem plain_mapAtEntries (s : Scalar) : (es : List (Key × Node)) → (p : Addr → Node → Bool) →
    (T : Addr → Bool) → keysNodupEntries es = true →
    (∀ k c, (k, c) ∈ es → T [.key k] = p [.key k] c
      ∧ Agree c (fun y => T (.key k :: y)) (fun y => p (.key k :: y))) →
    plainEntries (mapAtEntries p (putScalar s) es) = mapAtEntries (fun y _ => T y) (putScalar s) (plainEntries es)
  | [] => fun _ _ _ _ => rfl
  | (k, c) :: es => fun p T hk h => by
    have hk := keysNodupEntries_cons.mp hk
    have h0 := h k c List.mem_cons_self
    have ih := plain_mapAtEntries s es p T hk.2 fun k' c' hm => h k' c' (List.mem_cons_of_mem _ hm)
    exact (congrArg (fun x => (k, x) :: _) (plain_mapAtChild s h0.1 (plain_mapAt s c _ _ hk.1 h0.2))).trans (congrArg (_ :: ·) ih)
end

theorem keysNodup_mapAtChild (s : Scalar) (p : Addr → Node → Bool) (r : Ref) {c : Node}
    (ih : (c.mapAt (fun y => p (r :: y)) (putScalar s)).keysNodup = true) :
    (mapAtChild p (putScalar s) r c).keysNodup = true := by
  unfold mapAtChild
  cases p [r] c
  · exact ih
  · rfl

mutual
theorem keysNodup_mapAt (s : Scalar) : (d : Node) → (p : Addr → Node → Bool) →
    d.keysNodup = true → (d.mapAt p (putScalar s)).keysNodup = true
  | .scalar _ _ => fun _ _ => rfl
  | .set _ _ => fun _ _ => rfl
  | .seq a items => fun p h => keysNodup_mapAtList s items p 0 h
  | .map a es => fun p h => by
    have h := keysNodup_map.mp h
    exact keysNodup_map.mpr ⟨(mapAtEntries_keys p _ es).symm ▸ h.1, keysNodup_mapAtEntries s es p h.2⟩
theorem keysNodup_mapAtList (s : Scalar) : (cs : List Node) → (p : Addr → Node → Bool) → (i : Nat) →
    keysNodupList cs = true → keysNodupList (mapAtList p (putScalar s) i cs) = true
  | [] => fun _ _ _ => rfl
  | c :: cs => fun p i h => by
    have h := keysNodupList_cons.mp h
    exact keysNodupList_cons.mpr
      ⟨keysNodup_mapAtChild s p _ (keysNodup_mapAt s c _ h.1), keysNodup_mapAtList s cs p (i + 1) h.2⟩
theorem keysNodup_mapAtEntries (s : Scalar) : (es : List (Key × Node)) → (p : Addr → Node → Bool) →
    keysNodupEntries es = true → keysNodupEntries (mapAtEntries p (putScalar s) es) = true
  | [] => fun _ _ => rfl
  | (k, c) :: es => fun p h => by
    have h := keysNodupEntries_cons.mp h
    exact keysNodupEntries_cons.mpr
      ⟨keysNodup_mapAtChild s p _ (keysNodup_mapAt s c _ h.1), keysNodup_mapAtEntries s es p h.2⟩
end

/-! ### Removal -/

mutual
theorem plain_removeAll : (d : Node) → (S : List Addr) → (d.removeAll S).plain = d.plain.removeAll S
  | .scalar _ _ => fun _ => rfl
  | .set _ _ => fun _ => rfl
  | .seq _ items => fun S => congrArg (Node.seq none) (plain_removeAllList items 0 S)
  | .map _ es => fun S => congrArg (Node.map none) (plain_removeAllEntries es S)
theorem plain_removeAllList : (cs : List Node) → (i : Nat) → (S : List Addr) →
    plainList (removeAllList cs i S) = removeAllList (plainList cs) i S
  | [] => fun _ _ => rfl
  | c :: cs => fun i S => by
    have ih := plain_removeAllList cs (i + 1) S
    show _ = removeAllList (c.plain :: plainList cs) i S
    rw [removeAllList_cons, removeAllList_cons, ← ih, ← plain_removeAll c]
    cases S.contains [Ref.idx i] <;> rfl
theorem plain_removeAllEntries : (es : List (Key × Node)) → (S : List Addr) →
    plainEntries (removeAllEntries es S) = removeAllEntries (plainEntries es) S
  | [] => fun _ => rfl
  | (k, c) :: es => fun S => by
    have ih := plain_removeAllEntries es S
    show _ = removeAllEntries ((k, c.plain) :: plainEntries es) S
    rw [removeAllEntries_cons, removeAllEntries_cons, ← ih, ← plain_removeAll c]
    cases S.contains [Ref.key k] <;> rfl
end

theorem removeAllEntries_keys_sublist (S : List Addr) (es : List (Key × Node)) :
    ((removeAllEntries es S).map Prod.fst).Sublist (es.map Prod.fst) := by
  induction es with
  | nil => exact .slnil
  | cons e es ih =>
    rw [removeAllEntries_cons]
    cases S.contains [Ref.key e.1]
    · exact ih.cons_cons e.1
    · exact ih.cons e.1

theorem keysDistinct_sublist {l l' : List Key} (hs : l.Sublist l') (h : keysDistinct l' = true) :
    keysDistinct l = true := by
  induction hs with
  | slnil => exact h
  | cons _ _ ih => exact ih (keysDistinct_cons.mp h).2
  | cons_cons _ hs ih =>
    exact keysDistinct_cons.mpr ⟨fun hm => (keysDistinct_cons.mp h).1 (hs.subset hm), ih (keysDistinct_cons.mp h).2⟩

mutual
theorem keysNodup_removeAll : (d : Node) → (S : List Addr) → d.keysNodup = true → (d.removeAll S).keysNodup = true
  | .scalar _ _ => fun _ _ => rfl
  | .set _ _ => fun _ _ => rfl
  | .seq a items => fun S h => keysNodup_removeAllList items 0 S h
  | .map a es => fun S h => by
    have h := keysNodup_map.mp h
    exact keysNodup_map.mpr
      ⟨keysDistinct_sublist (removeAllEntries_keys_sublist S es) h.1, keysNodup_removeAllEntries es S h.2⟩
theorem keysNodup_removeAllList : (cs : List Node) → (i : Nat) → (S : List Addr) →
    keysNodupList cs = true → keysNodupList (removeAllList cs i S) = true
  | [] => fun _ _ _ => rfl
  | c :: cs => fun i S h => by
    have h := keysNodupList_cons.mp h
    have ih := keysNodup_removeAllList cs (i + 1) S h.2
    rw [removeAllList_cons]
    cases S.contains [Ref.idx i]
    · exact keysNodupList_cons.mpr ⟨keysNodup_removeAll c _ h.1, ih⟩
    · exact ih
theorem keysNodup_removeAllEntries : (es : List (Key × Node)) → (S : List Addr) →
    keysNodupEntries es = true → keysNodupEntries (removeAllEntries es S) = true
  | [] => fun _ _ => rfl
  | (k, c) :: es => fun S h => by
    have h := keysNodupEntries_cons.mp h
    have ih := keysNodup_removeAllEntries es S h.2
    rw [removeAllEntries_cons]
    cases S.contains [Ref.key k]
    · exact keysNodupEntries_cons.mpr ⟨keysNodup_removeAll c _ h.1, ih⟩
    · exact ih
end

/-! ### Grafting -/

mutual
theorem plain_graftAt (g g' : Node → Node) (hg : ∀ n, (g n).plain = g' n.plain) : (d : Node) → (q : Addr) →
    (d.graftAt g q).plain = d.plain.graftAt g' q
  | d, [] => by rw [graftAt_nil, graftAt_nil, hg]
  | .scalar _ _, _ :: _ => rfl
  | .set _ _, _ :: _ => rfl
  | .seq a items, r :: rest => by
    cases r with
    | idx i => exact congrArg (Node.seq none) (plain_graftList g g' hg items i rest)
    | _ => rfl
  | .map a es, r :: rest => by
    cases r with
    | key k => exact congrArg (Node.map none) (plain_graftEntries g g' hg es k rest)
    | _ => rfl
theorem plain_graftList (g g' : Node → Node) (hg : ∀ n, (g n).plain = g' n.plain) : (cs : List Node) → (i : Nat) → (q : Addr) →
    plainList (graftList g cs i q) = graftList g' (plainList cs) i q
  | [], _ => fun _ => rfl
  | c :: cs, 0 => fun q => congrArg (· :: plainList cs) (plain_graftAt g g' hg c q)
  | c :: cs, i + 1 => fun q => congrArg (c.plain :: ·) (plain_graftList g g' hg cs i q)
theorem plain_graftEntries (g g' : Node → Node) (hg : ∀ n, (g n).plain = g' n.plain) : (es : List (Key × Node)) → (k : Key) → (q : Addr) →
    plainEntries (graftEntries g es k q) = graftEntries g' (plainEntries es) k q
  | [] => fun _ _ => rfl
  | (k', c) :: es => fun k q => by
    show _ = graftEntries g' ((k', c.plain) :: plainEntries es) k q
    by_cases hk : k' = k
    · subst hk
      rw [graftEntries_cons_self, graftEntries_cons_self, ← plain_graftAt g g' hg c q]; rfl
    · rw [graftEntries_cons_ne _ hk, graftEntries_cons_ne _ hk, ← plain_graftEntries g g' hg es k q]; rfl
end

theorem graftEntries_keys (g : Node → Node) (k : Key) (q : Addr) (es : List (Key × Node)) :
    (graftEntries g es k q).map Prod.fst = es.map Prod.fst := by
  induction es with
  | nil => rfl
  | cons e es ih =>
    obtain ⟨k', c⟩ := e
    by_cases hk : k' = k
    · subst hk; rw [graftEntries_cons_self]; rfl
    · rw [graftEntries_cons_ne _ hk]; exact congrArg (k' :: ·) ih

mutual
theorem keysNodup_graftAt (sub : Node) (hs : sub.keysNodup = true) : (d : Node) → (q : Addr) →
    d.keysNodup = true → (d.graftAt (fun _ => sub) q).keysNodup = true
  | d, [] => fun _ => by rw [graftAt_nil]; exact hs
  | .scalar _ _, _ :: _ => fun _ => rfl
  | .set _ _, _ :: _ => fun _ => rfl
  | .seq a items, r :: rest => fun h => by
    cases r with
    | idx i => exact keysNodup_graftList sub hs items i rest h
    | _ => exact h
  | .map a es, r :: rest => fun h => by
    cases r with
    | key k =>
      have h := keysNodup_map.mp h
      exact keysNodup_map.mpr
        ⟨(graftEntries_keys _ k rest es).symm ▸ h.1, keysNodup_graftEntries sub hs es k rest h.2⟩
    | _ => exact h
theorem keysNodup_graftList (sub : Node) (hs : sub.keysNodup = true) : (cs : List Node) → (i : Nat) → (q : Addr) →
    keysNodupList cs = true → keysNodupList (graftList (fun _ => sub) cs i q) = true
  | [], _ => fun _ _ => rfl
  | c :: cs, 0 => fun q h => by
    have h := keysNodupList_cons.mp h
    exact keysNodupList_cons.mpr ⟨keysNodup_graftAt sub hs c q h.1, h.2⟩
  | c :: cs, i + 1 => fun q h => by
    have h := keysNodupList_cons.mp h
    exact keysNodupList_cons.mpr ⟨h.1, keysNodup_graftList sub hs cs i q h.2⟩
theorem keysNodup_graftEntries (sub : Node) (hs : sub.keysNodup = true) : (es : List (Key × Node)) → (k : Key) → (q : Addr) →
    keysNodupEntries es = true → keysNodupEntries (graftEntries (fun _ => sub) es k q) = true
  | [] => fun _ _ _ => rfl
  | (k', c) :: es => fun k q h => by
    have h := keysNodupEntries_cons.mp h
    by_cases hk : k' = k
    · subst hk
      rw [graftEntries_cons_self]
      exact keysNodupEntries_cons.mpr ⟨keysNodup_graftAt sub hs c q h.1, h.2⟩
    · rw [graftEntries_cons_ne _ hk]
      exact keysNodupEntries_cons.mpr ⟨h.1, keysNodup_graftEntries sub hs es k q h.2⟩
end

/-! ### `keysNodup` of sub-nodes and of what a creation builds -/

theorem keysNodupList_mem {c : Node} {cs : List Node} (hk : keysNodupList cs = true) (h : c ∈ cs) :
    c.keysNodup = true := by
  induction cs with
  | nil => cases h
  | cons c' cs ih =>
    have hk := keysNodupList_cons.mp hk
    rcases List.mem_cons.mp h with rfl | h2
    · exact hk.1
    · exact ih hk.2 h2

theorem keysNodupEntries_lookup {k : Key} : ∀ (es : List (Key × Node)) (c : Node), es.lookup k = some c →
    keysNodupEntries es = true → c.keysNodup = true :=
  lookup_induction (fun _ _ hk => (keysNodupEntries_cons.mp hk).1)
    (fun _ _ _ _ _ _ ih hk => ih (keysNodupEntries_cons.mp hk).2)

theorem keysNodup_child? {d c : Node} {r : Ref} (hk : d.keysNodup = true) (h : d.child? r = some c) :
    c.keysNodup = true := by
  cases r with
  | member k => obtain ⟨v, rfl⟩ := child?_member h; rfl
  | idx i => cases d with
    | seq a items => exact keysNodupList_mem hk (List.mem_of_getElem? h)
    | _ => cases h
  | key k => cases d with
    | map a es => exact keysNodupEntries_lookup es c h (keysNodup_map.mp hk).2
    | _ => cases h

theorem keysNodup_get? (q : Addr) (d n : Node) (hk : d.keysNodup = true) (h : d.get? q = some n) :
    n.keysNodup = true :=
  get?_induction (P := fun d _ n => d.keysNodup = true → n.keysNodup = true) (fun _ h => h)
    (fun _ _ _ _ _ hc _ ih hk => ih (keysNodup_child? hk hc)) q d n h hk

theorem keysNodupList_append (l1 l2 : List Node) :
    keysNodupList (l1 ++ l2) = (keysNodupList l1 && keysNodupList l2) := by
  induction l1 with
  | nil => exact (Bool.true_and _).symm
  | cons c l1 ih => exact (congrArg (c.keysNodup && ·) ih).trans (Bool.and_assoc ..).symm

theorem keysNodupList_replicate (x : Node) (hx : x.keysNodup = true) (k : Nat) :
    keysNodupList (List.replicate k x) = true := by
  induction k with
  | zero => rfl
  | succ k ih => exact keysNodupList_cons.mpr ⟨hx, ih⟩

theorem keysNodupEntries_append (l1 l2 : List (Key × Node)) :
    keysNodupEntries (l1 ++ l2) = (keysNodupEntries l1 && keysNodupEntries l2) := by
  induction l1 with
  | nil => exact (Bool.true_and _).symm
  | cons e l1 ih => exact (congrArg (e.2.keysNodup && ·) ih).trans (Bool.and_assoc ..).symm

theorem keysDistinct_append_single (k : Key) (ks : List Key) (hd : keysDistinct ks = true)
    (hc : ks.contains k = false) : keysDistinct (ks ++ [k]) = true := by
  induction ks with
  | nil => rfl
  | cons k' ks ih =>
    obtain ⟨hn, hd⟩ := keysDistinct_cons.mp hd
    rw [List.contains_cons, Bool.or_eq_false_iff, beq_eq_false_iff_ne] at hc
    refine keysDistinct_cons.mpr ⟨fun hm => ?_, ih hd hc.2⟩
    rcases List.mem_append.mp hm with h | h
    · exact hn h
    · exact hc.1 (List.mem_singleton.mp h).symm

theorem buildNext_keysNodup (rest : List PSeg) (leaf : Scalar) : (buildNext rest leaf).keysNodup = true := by
  unfold buildNext
  split <;> rfl

theorem fill_keysNodup (rest : List PSeg) (leaf : Scalar) (sp : Node) (h : fill rest leaf = .ok sp) :
    sp.keysNodup = true := by
  induction rest generalizing sp with
  | nil => cases h; rfl
  | cons seg rest ih =>
    cases seg with
    | key s =>
      obtain ⟨c, hf, rfl⟩ := Except.map_eq_ok h
      exact keysNodup_map.mpr ⟨rfl, keysNodupEntries_cons.mpr ⟨ih c hf, rfl⟩⟩
    | index i =>
      unfold fill at h
      split at h
      · cases h
      · obtain ⟨c, hf, rfl⟩ := Except.map_eq_ok h
        show keysNodupList _ = true
        rw [keysNodupList_append, keysNodupList_replicate _ (buildNext_keysNodup rest leaf)]
        exact keysNodupList_cons.mpr ⟨ih c hf, rfl⟩

theorem createHere_keysNodup {n n' : Node} {seg : PSeg} {rest : List PSeg} {leaf : Scalar}
    (hk : n.keysNodup = true) (hl : lookSeg n seg = .missing) (hc : createHere n seg rest leaf = .ok n') :
    n'.keysNodup = true := by
  obtain ⟨sp, hf, ⟨a, items, i, rfl, _, _, rfl⟩ | ⟨a, es, s, rfl, rfl, hnot, rfl⟩⟩ := createHere_ok hl hc
  · show keysNodupList _ = true
    rw [keysNodupList_append, keysNodupList_append, show keysNodupList items = true from hk,
      keysNodupList_replicate _ (buildNext_keysNodup rest leaf)]
    exact keysNodupList_cons.mpr ⟨fill_keysNodup rest leaf sp hf, rfl⟩
  · have hk := keysNodup_map.mp hk
    refine keysNodup_map.mpr ⟨?_, ?_⟩
    · rw [List.map_append]; exact keysDistinct_append_single _ _ hk.1 hnot
    · rw [keysNodupEntries_append, hk.2]
      exact keysNodupEntries_cons (k := .str s) |>.mpr ⟨fill_keysNodup rest leaf sp hf, rfl⟩

/-! ### One `_update_node` call and one `set_value` on plain data -/

theorem targetsAt_agree (d : Node) (p : Addr → Node → Bool) : Agree d (targetsAt d p) p := by
  intro y n _ hg; simp [targetsAt, hg]

theorem put_false (pd : Node) (T : Addr → Bool) (s : Scalar) (h : ∀ y, T y = false) :
    (POp.put T s).apply pd = pd :=
  mapAt_none pd _ _ fun y _ => h y

/-- **One step on plain data.**  A successful `_update_node` call for the address `a`, seen through
anchor erasure, puts the new scalar at exactly the addresses of the node at `a` and of its aliases. -/
theorem step_refines (v : Scalar) (fmt : Fmt) (d d' : Node) (a : Addr) (hk : d.keysNodup = true)
    (h : setStep v fmt d a = .ok d') :
    d'.plain = (stepAbs d a (stepScalar v fmt d a)).apply d.plain ∧ d'.keysNodup = true := by
  unfold setStep at h
  by_cases ha : a = []
  · rw [if_pos ha] at h
    cases h; subst ha
    exact ⟨(put_false _ _ _ fun _ => rfl).symm, hk⟩
  · rw [if_neg ha] at h
    split at h
    · cases h
    · split at h
      · next hg =>
        -- `a` leads nowhere: no node of `d` is a target
        cases h
        refine ⟨(put_false _ _ _ fun y => ?_).symm, hk⟩
        rw [hg]
        unfold targetsAt
        cases hy : d.get? y with
        | none => exact Bool.and_false _
        | some n =>
          have : (y == a) = false := beq_false_of_ne fun e => by rw [e, hg] at hy; cases hy
          simp [isRef, this]
      · next n hg =>
        split at h
        · cases h
        · next s hn =>
          cases h
          have hs : stepScalar v fmt d a = s := by simp only [stepScalar, hg, hn]
          refine ⟨?_, keysNodup_mapAt s d _ hk⟩
          rw [hs]
          simp only [stepAbs, POp.apply, hg, Option.bind_some, beq_false_of_ne ha, Bool.not_false, Bool.true_and]
          exact plain_mapAt s d _ _ hk (targetsAt_agree d _)

theorem runPlain_append (pd : Node) (l1 l2 : List POp) : runPlain pd (l1 ++ l2) = runPlain (runPlain pd l1) l2 := by
  induction l1 generalizing pd with
  | nil => rfl
  | cons o os ih => exact ih (o.apply pd)

/-- a whole `set_value`: its puts, one after the other -/
theorem setAbs_refines (v : Scalar) (fmt : Fmt) (d' : Node) : ∀ (d : Node) (addrs : List Addr),
    d.keysNodup = true → setValue v fmt d addrs = .ok d' →
    d'.plain = runPlain d.plain (setAbs v fmt d addrs) ∧ d'.keysNodup = true := by
  intro d addrs hk h
  induction addrs generalizing d with
  | nil => cases h; exact ⟨rfl, hk⟩
  | cons a rest ih =>
    unfold setValue at h
    split at h
    · cases h
    · next d1 hs =>
      obtain ⟨h1, hk1⟩ := step_refines v fmt d d1 a hk hs
      obtain ⟨h2, hk2⟩ := ih d1 hk1 h
      refine ⟨?_, hk2⟩
      simp only [setAbs, hs, runPlain, ← h1, h2]

end Ypv
