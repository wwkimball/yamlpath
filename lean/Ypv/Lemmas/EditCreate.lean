import Ypv.Spec.Edit
/-!
# Lemmas about creation (`createPath`) and grafting (`Node.graftAt`) (C09)

Also home of the two inductions the edit lemmas share: `lookup_induction`, `get?_induction`.
-/
namespace Ypv

theorem Except.map_eq_ok {ε α β : Type} {f : α → β} {x : Except ε α} {b : β} (h : x.map f = .ok b) :
    ∃ a, x = .ok a ∧ f a = b := by
  cases x with
  | error e => cases h
  | ok a => exact ⟨a, rfl, Except.ok.inj h⟩

theorem lookup_cons_ne {k k' : Key} (h : k' ≠ k) (c : Node) (es : List (Key × Node)) :
    ((k', c) :: es).lookup k = es.lookup k := by
  rw [List.lookup_cons, beq_false_of_ne (Ne.symm h)]

/-- Induction along a successful `lookup`: the entry found is the first one with that key. -/
theorem lookup_induction {k : Key} {P : List (Key × Node) → Node → Prop}
    (here : ∀ c es, P ((k, c) :: es) c)
    (there : ∀ k' c' es c, k' ≠ k → es.lookup k = some c → P es c → P ((k', c') :: es) c) :
    ∀ (es : List (Key × Node)) (c : Node), es.lookup k = some c → P es c := by
  intro es c h
  induction es with
  | nil => cases h
  | cons e es ih =>
    obtain ⟨k', c'⟩ := e
    by_cases hk : k' = k
    · subst hk; cases List.lookup_cons_self.symm.trans h; exact here _ es
    · rw [lookup_cons_ne hk] at h; exact there k' c' es c hk h (ih h)

theorem get?_cons (d : Node) (r : Ref) (t : Addr) :
    d.get? (r :: t) = match d.child? r with | some c => c.get? t | none => none := rfl

theorem get?_induction {P : Node → Addr → Node → Prop} (nil : ∀ d, P d [] d)
    (cons : ∀ d r c t n, d.child? r = some c → c.get? t = some n → P c t n → P d (r :: t) n) :
    ∀ (t : Addr) (d n : Node), d.get? t = some n → P d t n := by
  intro t
  induction t with
  | nil => intro d n h; cases h; exact nil d
  | cons r t ih =>
    intro d n h
    rw [get?_cons] at h
    split at h
    · next c hc => exact cons d r c t n hc h (ih c n h)
    · cases h

theorem get?_append : ∀ (q : Addr) (d n : Node) (z : Addr), d.get? q = some n → d.get? (q ++ z) = n.get? z :=
  fun q d n z h => get?_induction (P := fun d q n => d.get? (q ++ z) = n.get? z) (fun _ => rfl)
    (fun d r c t n hc _ ih => by rw [List.cons_append, get?_cons, hc]; exact ih) q d n h

theorem graftAt_nil (g : Node → Node) (n : Node) : n.graftAt g [] = g n := by
  cases n <;> rfl

theorem graftEntries_cons_self (g : Node → Node) (k : Key) (c : Node) (es : List (Key × Node)) (q : Addr) :
    graftEntries g ((k, c) :: es) k q = (k, c.graftAt g q) :: es := if_pos rfl

theorem graftEntries_cons_ne (g : Node → Node) {k k' : Key} (h : k' ≠ k) (c : Node) (es : List (Key × Node))
    (q : Addr) : graftEntries g ((k', c) :: es) k q = (k', c) :: graftEntries g es k q := if_neg h

/-! ### Grafting one level -/

theorem graftList_const (g : Node → Node) (q : Addr) (items : List Node) (i : Nat) (c : Node)
    (h : items[i]? = some c) : graftList (fun _ => c.graftAt g q) items i [] = graftList g items i q := by
  induction items generalizing i with
  | nil => cases h
  | cons c' cs ih =>
    cases i with
    | zero => cases h; exact congrArg (· :: cs) (graftAt_nil _ _)
    | succ i => exact congrArg (c' :: ·) (ih i h)

theorem graftList_self (items : List Node) (i : Nat) (c : Node) (h : items[i]? = some c) :
    graftList (fun _ => c) items i [] = items := by
  induction items generalizing i with
  | nil => cases h
  | cons c' cs ih =>
    cases i with
    | zero => cases h; exact congrArg (· :: cs) (graftAt_nil _ _)
    | succ i => exact congrArg (c' :: ·) (ih i h)

theorem graftEntries_const (g : Node → Node) (q : Addr) (k : Key) : ∀ (es : List (Key × Node)) (c : Node),
    es.lookup k = some c → graftEntries (fun _ => c.graftAt g q) es k [] = graftEntries g es k q :=
  lookup_induction
    (fun c es => by rw [graftEntries_cons_self, graftEntries_cons_self, graftAt_nil])
    (fun k' c' es c hk _ ih => by rw [graftEntries_cons_ne _ hk, graftEntries_cons_ne _ hk, ih])

theorem graftEntries_self (k : Key) : ∀ (es : List (Key × Node)) (c : Node),
    es.lookup k = some c → graftEntries (fun _ => c) es k [] = es :=
  lookup_induction
    (fun c es => by rw [graftEntries_cons_self, graftAt_nil])
    (fun k' c' es c hk _ ih => by rw [graftEntries_cons_ne _ hk, ih])

theorem graftAt_member (g : Node → Node) (d : Node) (k : Key) (q : Addr) :
    d.graftAt g (.member k :: q) = d := by
  cases d <;> rfl

theorem graftAt_child {d c : Node} {ref : Ref} (hc : d.child? ref = some c) :
    d.graftAt (fun _ => c) [ref] = d ∧
      ∀ g q, d.graftAt (fun _ => c.graftAt g q) [ref] = d.graftAt g (ref :: q) := by
  cases ref with
  | member k => exact ⟨graftAt_member .., fun g q => (graftAt_member ..).trans (graftAt_member ..).symm⟩
  | idx i => cases d with
    | seq a items =>
      exact ⟨congrArg (Node.seq a) (graftList_self items i c hc),
        fun g q => congrArg (Node.seq a) (graftList_const g q items i c hc)⟩
    | _ => cases hc
  | key k => cases d with
    | map a es =>
      exact ⟨congrArg (Node.map a) (graftEntries_self k es c hc),
        fun g q => congrArg (Node.map a) (graftEntries_const g q k es c hc)⟩
    | _ => cases hc

/-! ### The creation walk, one level -/

/-- What `_get_optional_nodes` does with an existing child: a `null` is handed out as it is (whatever
segments remain), any other child is entered. -/
def createChild (leaf : Scalar) (rest : List PSeg) (c : Node) : Except Err Created :=
  match c with
  | .scalar none .null => .ok ⟨c, []⟩
  | _ => c.createPath leaf rest

theorem createChild_ok {leaf : Scalar} {rest : List PSeg} {c : Node} {r : Created}
    (h : createChild leaf rest c = .ok r) :
    (c = .scalar none .null ∧ r = ⟨c, []⟩) ∨ (c ≠ .scalar none .null ∧ c.createPath leaf rest = .ok r) := by
  by_cases hc : c = .scalar none .null
  · subst hc; exact .inl ⟨rfl, (Except.ok.inj h).symm⟩
  · unfold createChild at h
    split at h
    · exact absurd rfl hc
    · exact .inr ⟨hc, h⟩

/-- `createList` and `createEntries` write `createChild` out as a `match` of their own. -/
theorem createChild_map {β : Type} (leaf : Scalar) (rest : List PSeg) (c : Node) (k : Created → β) :
    (match c with
      | .scalar none .null => Except.ok (k ⟨c, []⟩)
      | _ => (c.createPath leaf rest).map k) = (createChild leaf rest c).map k := by
  cases c with
  | scalar a v => cases a with
    | none => cases v <;> rfl
    | some _ => rfl
  | _ => rfl

theorem createList_ok {leaf : Scalar} {rest : List PSeg} {items : List Node} {i : Nat} {cs' : List Node} {ad : Addr}
    (h : createList leaf items i rest = .ok (cs', ad)) :
    ∃ c r, items[i]? = some c ∧ createChild leaf rest c = .ok r
      ∧ cs' = graftList (fun _ => r.doc) items i [] ∧ ad = r.addr := by
  induction items generalizing i cs' with
  | nil => cases h
  | cons c cs ih =>
    cases i with
    | zero =>
      obtain ⟨r, hr, he⟩ := Except.map_eq_ok ((createChild_map leaf rest c fun r => (r.doc :: cs, r.addr)).symm.trans h)
      cases he
      exact ⟨c, r, rfl, hr, congrArg (· :: cs) (graftAt_nil (fun _ => r.doc) c).symm, rfl⟩
    | succ i =>
      obtain ⟨⟨cs1, ad1⟩, hr, he⟩ := Except.map_eq_ok (f := fun (x : List Node × Addr) => (c :: x.1, x.2)) h
      cases he
      obtain ⟨c0, r, h1, h2, h3, h4⟩ := ih hr
      exact ⟨c0, r, h1, h2, congrArg (c :: ·) h3, h4⟩

theorem createEntries_ok {leaf : Scalar} {rest : List PSeg} {k : Key} {es es' : List (Key × Node)} {ad : Addr}
    (h : createEntries leaf es k rest = .ok (es', ad)) :
    ∃ c r, es.lookup k = some c ∧ createChild leaf rest c = .ok r
      ∧ es' = graftEntries (fun _ => r.doc) es k [] ∧ ad = r.addr := by
  induction es generalizing es' with
  | nil => cases h
  | cons e es ih =>
    obtain ⟨k', c⟩ := e
    by_cases hk : k' = k
    · subst hk
      obtain ⟨r, hr, he⟩ := Except.map_eq_ok
        ((createChild_map leaf rest c fun r => ((k', r.doc) :: es, r.addr)).symm.trans ((if_pos rfl).symm.trans h))
      cases he
      exact ⟨c, r, List.lookup_cons_self, hr, by rw [graftEntries_cons_self, graftAt_nil], rfl⟩
    · obtain ⟨⟨es1, ad1⟩, hr, he⟩ :=
        Except.map_eq_ok (f := fun (x : List (Key × Node) × Addr) => ((k', c) :: x.1, x.2)) ((if_neg hk).symm.trans h)
      cases he
      obtain ⟨c0, r, h1, h2, h3, h4⟩ := ih hr
      exact ⟨c0, r, (lookup_cons_ne hk c es).trans h1, h2, h3 ▸ (graftEntries_cons_ne _ hk ..).symm, h4⟩

theorem createPath_cons_ok {leaf : Scalar} {d : Node} {seg : PSeg} {rest : List PSeg} {r : Created}
    (h : d.createPath leaf (seg :: rest) = .ok r) :
    (lookSeg d seg = .missing ∧
      ∃ n', createHere d seg rest leaf = .ok n' ∧ r = ⟨n', createdRef d seg :: fillAddr rest⟩) ∨
    ∃ ref c r', lookSeg d seg = .found ref ∧ d.child? ref = some c ∧ createChild leaf rest c = .ok r'
      ∧ r = ⟨d.graftAt (fun _ => r'.doc) [ref], ref :: r'.addr⟩ := by
  cases d with
  | scalar a v => cases h
  | set a ms => cases h
  | seq a items =>
    unfold Node.createPath at h
    split at h
    · cases h
    · next hl =>
      obtain ⟨n', hc, rfl⟩ := Except.map_eq_ok h
      exact .inl ⟨hl, n', hc, rfl⟩
    · next i hl =>
      obtain ⟨⟨cs', ad⟩, hr, rfl⟩ := Except.map_eq_ok h
      obtain ⟨c, r', hi, hc, rfl, rfl⟩ := createList_ok hr
      exact .inr ⟨_, c, r', hl, hi, hc, rfl⟩
    · cases h
  | map a es =>
    unfold Node.createPath at h
    split at h
    · cases h
    · next hl =>
      obtain ⟨n', hc, rfl⟩ := Except.map_eq_ok h
      exact .inl ⟨hl, n', hc, rfl⟩
    · next k hl =>
      obtain ⟨⟨es', ad⟩, hr, rfl⟩ := Except.map_eq_ok h
      obtain ⟨c, r', hi, hc, rfl, rfl⟩ := createEntries_ok hr
      exact .inr ⟨_, c, r', hl, hi, hc, rfl⟩
    · cases h

/-- Whatever a successful `createPath` returns is one of the three `CreateOutcome`s. -/
theorem createPath_outcome (leaf : Scalar) : ∀ (segs : List PSeg) (d : Node) (r : Created),
    d.createPath leaf segs = .ok r → CreateOutcome leaf d segs r := by
  intro segs
  induction segs with
  | nil =>
    intro d r h
    have : r = ⟨d, []⟩ := by cases d <;> exact (Except.ok.inj h).symm
    subst this
    exact .present d (.here d) rfl
  | cons seg rest ih =>
    intro d r h
    rcases createPath_cons_ok h with ⟨hl, n', hc, rfl⟩ | ⟨ref, c, r', hl, hc, hr', rfl⟩
    · exact .created [] seg rest [] _ n' rfl (.here _) hl hc (graftAt_nil (fun _ => n') _).symm rfl
    · obtain ⟨hself, hcomp⟩ := graftAt_child hc
      rcases createChild_ok hr' with ⟨rfl, rfl⟩ | ⟨hnn, hr'⟩
      · exact .nullRelay [] seg rest [] _ ref rfl (.here _) hl hc hself rfl
      · -- the outcome below the child, seen from `d`: one more step of `Follows` in front
        cases ih c r' hr' with
        | present n hf hd => exact .present n (.step hl hc hnn hf) (hd ▸ hself)
        | nullRelay pre s rs q n rf hseg hf hl' hch hd ha =>
          exact .nullRelay (seg :: pre) s rs (ref :: q) n rf (congrArg (seg :: ·) hseg) (.step hl hc hnn hf) hl' hch
            (hd ▸ hself) (congrArg (ref :: ·) ha)
        | created pre s rs q n n' hseg hf hl' hch hd ha =>
          exact .created (seg :: pre) s rs (ref :: q) n n' (congrArg (seg :: ·) hseg) (.step hl hc hnn hf) hl' hch
            (hd ▸ hcomp _ q) (congrArg (ref :: ·) ha)

/-! ### Looking a node up in a grafted document -/

theorem graftList_getElem? (g : Node → Node) (q : Addr) (items : List Node) (i j : Nat) :
    (graftList g items i q)[j]? = if j = i then (items[j]?).map (·.graftAt g q) else items[j]? := by
  induction items generalizing i j with
  | nil => exact (ite_self _).symm
  | cons c cs ih =>
    cases i with
    | zero => cases j <;> rfl
    | succ i =>
      cases j with
      | zero => rfl
      | succ j =>
        have ih := ih i j
        by_cases h : j = i
        · rw [if_pos h] at ih; rw [if_pos (congrArg (· + 1) h)]; exact ih
        · rw [if_neg h] at ih; rw [if_neg fun e => h (Nat.add_right_cancel e)]; exact ih

theorem graftEntries_lookup (g : Node → Node) (q : Addr) (k k' : Key) (es : List (Key × Node)) :
    (graftEntries g es k q).lookup k' = if k' = k then (es.lookup k').map (·.graftAt g q) else es.lookup k' := by
  induction es with
  | nil => exact (ite_self _).symm
  | cons e es ih =>
    obtain ⟨k0, c⟩ := e
    by_cases h0 : k0 = k
    · subst h0
      rw [graftEntries_cons_self]
      by_cases h1 : k' = k0
      · subst h1; rw [if_pos rfl, List.lookup_cons_self, List.lookup_cons_self]; rfl
      · rw [if_neg h1, lookup_cons_ne (Ne.symm h1), lookup_cons_ne (Ne.symm h1)]
    · rw [graftEntries_cons_ne _ h0]
      by_cases h1 : k' = k0
      · subst h1; rw [if_neg h0, List.lookup_cons_self, List.lookup_cons_self]
      · rw [lookup_cons_ne (Ne.symm h1), lookup_cons_ne (Ne.symm h1)]; exact ih

theorem child?_graftAt_same (g : Node → Node) (d : Node) (r : Ref) (q : Addr) (hr : ∀ k, r ≠ .member k) :
    (d.graftAt g (r :: q)).child? r = (d.child? r).map (·.graftAt g q) := by
  cases r with
  | member k => exact absurd rfl (hr k)
  | idx i => cases d with
    | seq a items => exact (graftList_getElem? g q items i i).trans (if_pos rfl)
    | _ => rfl
  | key k => cases d with
    | map a es => exact (graftEntries_lookup g q k k es).trans (if_pos rfl)
    | _ => rfl

theorem child?_graftAt_ne (g : Node → Node) (d : Node) (r r' : Ref) (q : Addr) (h : r' ≠ r) :
    (d.graftAt g (r :: q)).child? r' = d.child? r' := by
  cases r with
  | member k => rw [graftAt_member]
  | idx i => cases d with
    | seq a items => cases r' with
      | idx j => exact (graftList_getElem? g q items i j).trans (if_neg fun e => h (congrArg Ref.idx e))
      | _ => rfl
    | _ => rfl
  | key k => cases d with
    | map a es => cases r' with
      | key k' => exact (graftEntries_lookup g q k k' es).trans (if_neg fun e => h (congrArg Ref.key e))
      | _ => rfl
    | _ => rfl

/-- **Frame of a graft.**  An address that is neither on the way to `q` nor below `q` leads to the
same node before and after. -/
theorem get?_graftAt_frame (g : Node → Node) : ∀ (q : Addr) (d : Node) (y : Addr),
    ¬ y <+: q → ¬ q <+: y → (d.graftAt g q).get? y = d.get? y := by
  intro q
  induction q with
  | nil => exact fun _ _ _ h => absurd List.nil_prefix h
  | cons r q ih =>
    intro d y h1 h2
    cases y with
    | nil => exact absurd List.nil_prefix h1
    | cons r' y =>
      rw [get?_cons, get?_cons]
      by_cases hrr : r' = r
      · subst hrr
        by_cases hm : ∃ k, r' = .member k
        · obtain ⟨k, rfl⟩ := hm; rw [graftAt_member]
        · rw [child?_graftAt_same g d r' q fun k h => hm ⟨k, h⟩]
          cases d.child? r' with
          | none => rfl
          | some c =>
            exact ih c y (fun h => h1 ((List.cons_prefix_cons).mpr ⟨rfl, h⟩))
              (fun h => h2 ((List.cons_prefix_cons).mpr ⟨rfl, h⟩))
      · rw [child?_graftAt_ne g d r r' q hrr]

theorem get?_graftAt_below (g : Node → Node) (q : Addr) (d n : Node) (z : Addr) (h : d.get? q = some n) :
    (∀ r ∈ q, ∀ k, r ≠ Ref.member k) → (d.graftAt g q).get? (q ++ z) = (g n).get? z :=
  get?_induction
    (P := fun d q n => (∀ r ∈ q, ∀ k, r ≠ Ref.member k) → (d.graftAt g q).get? (q ++ z) = (g n).get? z)
    (fun d _ => by rw [graftAt_nil]; rfl)
    (fun d r c t n hc _ ih hm => by
      rw [List.cons_append, get?_cons, child?_graftAt_same g d r t (hm r List.mem_cons_self), hc]
      exact ih fun r' hr' => hm r' (List.mem_cons_of_mem _ hr'))
    q d n h

theorem ite_ne {α : Type} {c : Prop} [Decidable c] {a b x : α} (ha : a ≠ x) (hb : b ≠ x) :
    (if c then a else b) ≠ x := by
  by_cases h : c
  · rw [if_pos h]; exact ha
  · rw [if_neg h]; exact hb

/-- what `lookSeg` finds in a sequence is an index, in a mapping a key -/
theorem lookSeg_found_not_member {d : Node} {seg : PSeg} {ref : Ref} (h : lookSeg d seg = .found ref) :
    ∀ k, ref ≠ .member k := by
  rintro k rfl
  revert h
  cases d with
  | scalar a v => nofun
  | set a ms => nofun
  | seq a items =>
    unfold lookSeg
    cases intOfSeg seg with
    | none => nofun
    | some i => exact ite_ne (ite_ne nofun (ite_ne nofun nofun)) nofun
  | map a es =>
    cases seg with
    | index i => nofun
    | key s =>
      unfold lookSeg
      refine ite_ne nofun ?_
      cases pyInt? s with
      | none => nofun
      | some i => exact ite_ne nofun nofun

theorem Follows.get? {d : Node} {pre : List PSeg} {q : Addr} {n : Node} (h : Follows d pre q n) :
    d.get? q = some n := by
  induction h with
  | here d => rfl
  | step hl hc _ _ ih => rw [get?_cons, hc]; exact ih

theorem Follows.noMember {d : Node} {pre : List PSeg} {q : Addr} {n : Node} (h : Follows d pre q n) :
    ∀ r ∈ q, ∀ k, r ≠ Ref.member k := by
  induction h with
  | here d => exact fun _ hr => nomatch hr
  | step hl _ _ _ ih =>
    intro r hr
    rcases List.mem_cons.mp hr with rfl | hr
    · exact lookSeg_found_not_member hl
    · exact ih r hr

theorem Follows.get?_graftAt {d : Node} {pre : List PSeg} {q : Addr} {n : Node} (h : Follows d pre q n)
    (g : Node → Node) (z : Addr) : (d.graftAt g q).get? (q ++ z) = (g n).get? z :=
  get?_graftAt_below g q d n z h.get? h.noMember

/-! ### The creation block at the node where the segment is missing -/

theorem lookup_eq_none_of_keys {k : Key} {es : List (Key × Node)} (h : (es.map Prod.fst).contains k = false) :
    es.lookup k = none := by
  rw [List.contains_eq_mem, decide_eq_false_iff_not] at h
  rw [List.lookup_eq_none_iff]
  intro p hp
  rw [bne_iff_ne]
  rintro rfl
  exact h (List.mem_map_of_mem hp)

/-- A successful `createHere` for a missing segment appended the filled spine: to a sequence, padded up to
the (non-negative, not yet existing) index; to a mapping, under a key it did not have. -/
theorem createHere_ok {n n' : Node} {seg : PSeg} {rest : List PSeg} {leaf : Scalar}
    (hl : lookSeg n seg = .missing) (hc : createHere n seg rest leaf = .ok n') :
    ∃ sp, fill rest leaf = .ok sp ∧
      ((∃ a items i, n = .seq a items ∧ intOfSeg seg = some i ∧ items.length ≤ i.toNat ∧
          n' = .seq a (items ++ List.replicate (i.toNat - items.length) (buildNext rest leaf) ++ [sp])) ∨
       (∃ a es s, n = .map a es ∧ seg = .key s ∧ (es.map Prod.fst).contains (.str s) = false ∧
          n' = .map a (es ++ [(.str s, sp)]))) := by
  unfold createHere at hc
  split at hc
  · next a items =>
    split at hc
    · cases hc
    · next i hi =>
      split at hc
      · cases hc
      · next hneg =>
        split at hc
        · cases hc
        · next sp hf =>
          cases hc
          refine ⟨sp, hf, .inl ⟨a, items, i, rfl, hi, ?_, rfl⟩⟩
          -- an index below the length would have been found
          unfold lookSeg at hl
          rw [hi] at hl
          dsimp only at hl
          by_cases hgt : (items.length : Int) > i
          · rw [if_pos hgt, if_pos (Int.not_lt.mp hneg)] at hl; cases hl
          · exact (Int.le_toNat (Int.not_lt.mp hneg)).mpr (Int.not_lt.mp hgt)
  · next a es =>
    split at hc
    · next s =>
      split at hc
      · cases hc
      · next sp hf =>
        cases hc
        refine ⟨sp, hf, .inr ⟨a, es, s, rfl, rfl, ?_, rfl⟩⟩
        unfold lookSeg at hl
        dsimp only at hl
        cases hk : (es.map Prod.fst).contains (Key.str s) with
        | false => rfl
        | true => rw [hk, if_pos rfl] at hl; cases hl
    · cases hc
  · cases hc
  · cases hc

/-- `createHere` in a node in which the segment is missing: the anchor is kept, every existing child
keeps its reference and content, the reference of the new element was free and now holds the filled
spine. -/
theorem createHere_spec {n n' : Node} {seg : PSeg} {rest : List PSeg} {leaf : Scalar}
    (hl : lookSeg n seg = .missing) (hc : createHere n seg rest leaf = .ok n') :
    n'.anchor = n.anchor ∧ (∀ r c, n.child? r = some c → n'.child? r = some c)
      ∧ n.child? (createdRef n seg) = none
      ∧ ∃ sp, fill rest leaf = .ok sp ∧ n'.child? (createdRef n seg) = some sp := by
  obtain ⟨sp, hf, ⟨a, items, i, rfl, hi, hlen, rfl⟩ | ⟨a, es, s, rfl, rfl, hnot, rfl⟩⟩ := createHere_ok hl hc
  · have href : createdRef (.seq a items) seg = .idx i.toNat := by unfold createdRef; rw [hi]
    have hL : (items ++ List.replicate (i.toNat - items.length) (buildNext rest leaf)).length = i.toNat := by
      rw [List.length_append, List.length_replicate, Nat.add_sub_cancel' hlen]
    rw [href]
    refine ⟨rfl, fun r c hrc => ?_, List.getElem?_eq_none hlen, sp, hf, ?_⟩
    · cases r with
      | idx j =>
        obtain ⟨hj, _⟩ := List.getElem?_eq_some_iff.mp hrc
        exact (congrArg (·[j]?) (List.append_assoc ..)).trans ((List.getElem?_append_left hj).trans hrc)
      | _ => cases hrc
    · exact (List.getElem?_append_right (Nat.le_of_eq hL)).trans (by rw [hL, Nat.sub_self]; rfl)
  · have hnone := lookup_eq_none_of_keys hnot
    refine ⟨rfl, fun r c hrc => ?_, hnone, sp, hf, ?_⟩
    · cases r with
      | key k => exact List.lookup_append.trans (congrArg (Option.or · ([(Key.str s, sp)].lookup k)) hrc)
      | _ => cases hrc
    · exact List.lookup_append.trans (by rw [hnone]; exact List.lookup_cons_self)

theorem createHere_get? {n n' : Node} {seg : PSeg} {rest : List PSeg} {leaf : Scalar}
    (hl : lookSeg n seg = .missing) (hc : createHere n seg rest leaf = .ok n')
    (z : Addr) (hz : z ≠ []) (m : Node) (h : n.get? z = some m) : n'.get? z = some m := by
  cases z with
  | nil => exact absurd rfl hz
  | cons r t =>
    rw [get?_cons] at h ⊢
    split at h
    · next c hch => rw [(createHere_spec hl hc).2.1 r c hch]; exact h
    · cases h

end Ypv
