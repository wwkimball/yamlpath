import Ypv.Lemmas.PathSim
/-!
# Path text appended section by section (`YAMLPath.__add__` / `append`, any number of times)

`parseWith_texts_snoc` (C08) reads a canonical text to which ONE section was appended behind a
separator.  The evaluator builds the reported path by appending a section per step
(`translated_path + escape_path_section(key)`, `+ "[{}]".format(idx)`, `+ "[&{}]"…`), each append
inserting a separator — also in front of a bracketed section (`a.[0].b.[&x]`).  `parseWith_texts_join`
is the general form: a loosely written prefix followed by ANY number of appended sections.
-/
namespace Ypv.Acc
open Ypv Ypv.Sim

/-- sections appended one by one: each behind a separator -/
def joinFrom (sep : Char) : List LSeg → Str
  | [] => []
  | l :: r => sep :: (l.text sep false ++ joinFrom sep r)

theorem joinFrom_append (sep : Char) (a b : List LSeg) :
    joinFrom sep (a ++ b) = joinFrom sep a ++ joinFrom sep b := by
  induction a with
  | nil => rfl
  | cons l r ih => simp [joinFrom, ih]

theorem lastAc_append (ms : List LSeg) : ∀ (ls : List LSeg) (ac : Bool),
    lastAc ac (ls ++ ms) = lastAc (lastAc ac ls) ms := by
  intro ls
  induction ls with
  | nil => intro ac; rfl
  | cons l r ih => intro ac; simp [lastAc, ih]

theorem wfFromL_append {sep : Char} (ms : List LSeg) : ∀ (ls : List LSeg) (ac : Bool),
    wfFromL sep ac (ls ++ ms) ↔ (wfFromL sep ac ls ∧ wfFromL sep (lastAc ac ls) ms) := by
  intro ls
  induction ls with
  | nil => intro ac; simp [wfFromL, lastAc]
  | cons l r ih => intro ac; simp [wfFromL, lastAc, ih, and_assoc]

/-- **The parser loop over appended sections**: from a between-segments state, each appended section
(a separator, then the section's own text) is read back as its segment.  After the separator the
parser looks for an anchor mark, so no appended section may be an `&` collector. -/
theorem run_joinFrom {sep : Char} (hsep : sep = '.' ∨ sep = '/') (strip : Bool) :
    ∀ (ls : List LSeg) (ac : Bool) (st : PState) (ss : List Seg), Inv ac st ss →
    wfFromL sep ac ls → (∀ l ∈ ls, l.isInter = false) →
    ∃ st', run sep strip st (joinFrom sep ls) = .ok st' ∧
      Inv (lastAc ac ls) st' (ss ++ ls.map (LSeg.seg strip)) := by
  intro ls
  induction ls with
  | nil => intro ac st ss h _ _; exact ⟨st, by simp [joinFrom, run], by simpa [lastAc] using h⟩
  | cons l r ih =>
    intro ac st ss h hwf hni
    obtain ⟨hw1, hw2⟩ := hwf
    obtain ⟨st1, hs1, hi1, h11, h12, h13⟩ := step_sep strip hsep h
    obtain ⟨st2, hr2, hi2, _⟩ := sim_any strip hsep hi1 false l (fun _ => ⟨h11, h12, fun _ => h13⟩)
      (fun hi => by rw [hni l (by simp)] at hi; cases hi) hw1
    obtain ⟨st3, hr3, hi3⟩ := ih l.isColl st2 (ss ++ [l.seg strip]) hi2 hw2
      (fun x hx => hni x (by simp [hx]))
    refine ⟨st3, ?_, by rw [List.map_cons, List.append_cons]; exact hi3⟩
    simp only [joinFrom, run, hs1]
    exact (run_append_ok hr2 _).trans hr3

/-- **A loosely written prefix followed by any number of appended sections** parses to the segments of
the prefix followed by the segments of the sections (what `YAMLPath.append`, applied repeatedly,
builds); `parseWith_texts_snoc` is the case of one section. -/
theorem parseWith_texts_join (fslash strip : Bool) (ls ms : List LSeg)
    (hwf : wfFromL (if fslash then '/' else '.') false (ls ++ ms)) (hne : ls ≠ [])
    (hni : ∀ l ∈ ms, l.isInter = false) (o1 : Str)
    (ho : o1 = textAll fslash ls ++ joinFrom (if fslash then '/' else '.') ms)
    (hn : normOriginal o1 = o1) :
    parseWith fslash strip o1 = .ok ((ls ++ ms).map (LSeg.seg strip)) := by
  obtain ⟨hwl, hwm⟩ := (wfFromL_append ms ls false).mp hwf
  refine parseWith_texts_then fslash strip ls hwl hne _ _ (fun st2 hi2 => ?_) o1 ho hn
  obtain ⟨st3, hr3, hi3⟩ := run_joinFrom (sepChar_ok fslash) strip ms _ st2 _ hi2 hwm hni
  exact ⟨_, st3, hr3, by simpa using hi3⟩

end Ypv.Acc
