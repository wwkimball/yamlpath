import Ypv.Lemmas.Doc
/-!
# Document order: the addresses of a subtree, and "results come in document order"
(helpers of `Props/C01.select_sorted_nodup`)
-/
namespace Ypv

/-- All addresses of the subtree of a node at address `a`, in document order (pre-order; the members
of a set are leaves). -/
def addrsAll : Node → Addr → List Addr
  | .scalar .., a => [a]
  | .set _ ms, a => a :: ms.map (fun k => a ++ [Ref.member k])
  | .seq _ items, a => a :: addrsSeq a items 0
  | .map _ es, a => a :: addrsMap a es
where
  addrsSeq (a : Addr) : List Node → Nat → List Addr
    | [], _ => []
    | n :: ns, i => addrsAll n (a ++ [Ref.idx i]) ++ addrsSeq a ns (i + 1)
  addrsMap (a : Addr) : List (Key × Node) → List Addr
    | [] => []
    | (k, n) :: es => addrsAll n (a ++ [Ref.key k]) ++ addrsMap a es

/-- The addresses below a node (its own excluded). -/
def addrsBelow (n : Node) (a : Addr) : List Addr := (addrsAll n a).tail

theorem addrsAll_eq (n : Node) (a : Addr) : addrsAll n a = a :: addrsBelow n a := by
  cases n <;> rfl

theorem flatMap_sublist_of_sublist {α β : Type} {l₁ l₂ : List α} (f : α → List β) (h : l₁.Sublist l₂) :
    (l₁.flatMap f).Sublist (l₂.flatMap f) := by
  induction h with
  | slnil => simp
  | cons x _ ih => simp only [List.flatMap_cons]; exact List.Sublist.trans ih (List.sublist_append_right _ _)
  | cons_cons x _ ih => simp only [List.flatMap_cons]; exact List.Sublist.append (List.Sublist.refl _) ih

theorem flatMap_sublist_pointwise {α β : Type} (l : List α) {f g : α → List β} (h : ∀ x ∈ l, (f x).Sublist (g x)) :
    (l.flatMap f).Sublist (l.flatMap g) := by
  induction l with
  | nil => simp
  | cons x xs ih =>
    simp only [List.flatMap_cons]
    exact List.Sublist.append (h x List.mem_cons_self) (ih (fun y hy => h y (List.mem_cons_of_mem _ hy)))

theorem addrsSeq_embed (a : Addr) : ∀ (items : List Node) (i j : Nat) (m : Node), items[j]? = some m →
    (addrsAll m (a ++ [Ref.idx (i + j)])).Sublist (addrsAll.addrsSeq a items i) := by
  intro items
  induction items with
  | nil => intro i j m h; cases h
  | cons x xs ih =>
    intro i j m h
    simp only [addrsAll.addrsSeq]
    cases j with
    | zero => cases h; exact List.sublist_append_left _ _
    | succ j =>
      have := ih (i + 1) j m h
      rw [Nat.add_right_comm, Nat.add_assoc] at this
      exact List.Sublist.trans this (List.sublist_append_right _ _)

theorem addrsMap_embed (a : Addr) : ∀ (es : List (Key × Node)) (k : Key) (m : Node), (k, m) ∈ es →
    (addrsAll m (a ++ [Ref.key k])).Sublist (addrsAll.addrsMap a es) := by
  intro es
  induction es with
  | nil => intro k m h; cases h
  | cons x xs ih =>
    intro k m h
    obtain ⟨k', v'⟩ := x
    simp only [addrsAll.addrsMap]
    cases h with
    | head => exact List.sublist_append_left _ _
    | tail _ h' => exact List.Sublist.trans (ih k m h') (List.sublist_append_right _ _)

theorem child_embed {n m : Node} {r : Ref} (a : Addr) (h : n.child? r = some m) :
    (addrsAll m (a ++ [r])).Sublist (addrsBelow n a) := by
  rcases child?_cases h with ⟨b, items, i, rfl, rfl, h'⟩ | ⟨b, es, k, rfl, rfl, h'⟩ | ⟨b, ms, k, rfl, rfl, hk, rfl⟩
  · have := addrsSeq_embed a items 0 i m h'
    rwa [Nat.zero_add] at this
  · exact addrsMap_embed a es k m (mem_of_lookup h')
  · exact List.singleton_sublist.mpr (List.mem_map.mpr ⟨k, hk, rfl⟩)

/-! ## In a well-formed document no address occurs twice -/

theorem mem_addrsSeq {a b : Addr} : ∀ {items : List Node} {i : Nat}, b ∈ addrsAll.addrsSeq a items i →
    ∃ j n, i ≤ j ∧ n ∈ items ∧ b ∈ addrsAll n (a ++ [Ref.idx j]) := by
  intro items
  induction items with
  | nil => intro i hb; cases hb
  | cons n ns ih =>
    intro i hb
    rcases List.mem_append.mp hb with h | h
    · exact ⟨i, n, Nat.le_refl _, List.mem_cons_self, h⟩
    · obtain ⟨j, m, hj, hm, hbm⟩ := ih h
      exact ⟨j, m, Nat.le_of_succ_le hj, List.mem_cons_of_mem _ hm, hbm⟩

theorem mem_addrsMap {a b : Addr} : ∀ {es : List (Key × Node)}, b ∈ addrsAll.addrsMap a es →
    ∃ kv ∈ es, b ∈ addrsAll kv.2 (a ++ [Ref.key kv.1]) := by
  intro es
  induction es with
  | nil => intro hb; cases hb
  | cons kv es ih =>
    intro hb
    rcases List.mem_append.mp hb with h | h
    · exact ⟨kv, List.mem_cons_self, h⟩
    · obtain ⟨kv', hm, hbm⟩ := ih h
      exact ⟨kv', List.mem_cons_of_mem _ hm, hbm⟩

theorem addrsAll_prefix (n : Node) : ∀ (a : Addr), ∀ b ∈ addrsAll n a, a <+: b := by
  induction n using Node.induct with
  | scalar _ v => intro a b hb; cases List.mem_singleton.mp hb; exact List.prefix_refl _
  | set _ ms =>
    intro a b hb
    cases hb with
    | head => exact List.prefix_refl _
    | tail _ h => obtain ⟨k, _, rfl⟩ := List.mem_map.mp h; exact List.prefix_append _ _
  | seq _ items ih =>
    intro a b hb
    cases hb with
    | head => exact List.prefix_refl _
    | tail _ h =>
      obtain ⟨j, n, _, hn, hbn⟩ := mem_addrsSeq h
      exact List.IsPrefix.trans (List.prefix_append _ _) (ih n hn _ b hbn)
  | map _ es ih =>
    intro a b hb
    cases hb with
    | head => exact List.prefix_refl _
    | tail _ h =>
      obtain ⟨kv, hkv, hbn⟩ := mem_addrsMap h
      exact List.IsPrefix.trans (List.prefix_append _ _) (ih kv hkv _ b hbn)

theorem ref_eq_of_prefixes {a b : Addr} {r1 r2 : Ref} (h1 : (a ++ [r1]) <+: b) (h2 : (a ++ [r2]) <+: b) : r1 = r2 := by
  have := List.prefix_of_prefix_length_le h1 h2 (by simp)
  have := List.IsPrefix.eq_of_length this (by simp)
  simpa using this

theorem not_mem_of_longer {a b : Addr} {r : Ref} (h : (a ++ [r]) <+: b) : b ≠ a := by
  intro e
  subst e
  have := h.length_le
  simp at this
  omega

mutual
theorem addrsAll_nodup : (n : Node) → n.WF → (a : Addr) → (addrsAll n a).Nodup
  | .scalar .. => fun _ a => by simp [addrsAll]
  | .set _ ms => fun hw a => by
      simp only [addrsAll, List.nodup_cons, List.mem_map, not_exists, not_and]
      refine ⟨fun k _ h => ?_, ?_⟩
      · have := congrArg List.length h; simp at this
      · exact List.Pairwise.map _ (fun x y hne h => hne (by simpa using h)) hw
  | .seq _ items => fun hw a => by
      simp only [addrsAll, List.nodup_cons]
      refine ⟨fun h => ?_, addrsSeq_nodup a items hw 0⟩
      obtain ⟨j, m, _, _, hm⟩ := mem_addrsSeq h
      exact not_mem_of_longer (addrsAll_prefix m _ a hm) rfl
  | .map _ es => fun hw a => by
      simp only [addrsAll, List.nodup_cons]
      refine ⟨fun h => ?_, addrsMap_nodup a es hw.1 hw.2⟩
      obtain ⟨kv, _, hm⟩ := mem_addrsMap h
      exact not_mem_of_longer (addrsAll_prefix kv.2 _ a hm) rfl
theorem addrsSeq_nodup (a : Addr) : (items : List Node) → WFList items → (i : Nat) →
    (addrsAll.addrsSeq a items i).Nodup
  | [] => fun _ _ => by simp [addrsAll.addrsSeq]
  | n :: ns => fun hw i => by
      simp only [addrsAll.addrsSeq]
      refine List.nodup_append.mpr ⟨addrsAll_nodup n hw.1 _, addrsSeq_nodup a ns hw.2 (i + 1), ?_⟩
      intro b hb1 c hb2 hbc
      subst hbc
      have p1 := addrsAll_prefix n _ b hb1
      obtain ⟨j, m, hj, _, hm⟩ := mem_addrsSeq hb2
      have := ref_eq_of_prefixes p1 (addrsAll_prefix m _ b hm)
      simp at this
      omega
theorem addrsMap_nodup (a : Addr) : (es : List (Key × Node)) → (es.map (·.1)).Nodup → WFEntries es →
    (addrsAll.addrsMap a es).Nodup
  | [] => fun _ _ => by simp [addrsAll.addrsMap]
  | (k, n) :: es => fun hnd hw => by
      simp only [addrsAll.addrsMap]
      simp only [List.map_cons, List.nodup_cons] at hnd
      refine List.nodup_append.mpr ⟨addrsAll_nodup n hw.1 _, addrsMap_nodup a es hnd.2 hw.2, ?_⟩
      intro b hb1 c hb2 hbc
      subst hbc
      have p1 := addrsAll_prefix n _ b hb1
      obtain ⟨kv, hkv, hm⟩ := mem_addrsMap hb2
      have := ref_eq_of_prefixes p1 (addrsAll_prefix kv.2 _ b hm)
      simp at this
      subst this
      exact hnd.1 (List.mem_map_of_mem hkv)
end

/-! ## Results in document order -/

namespace Eval
open Gen

/-- The addresses of the subtree of a result. -/
def sub (x : NC) : List Addr := addrsAll x.1 x.2.addr

/-- The results, each with its whole subtree, embed in order into the subtree of `(n, c)`: they are
in document order, pairwise disjoint (no result is an ancestor of or equal to another). -/
def Ord (R : List NC) (n : Node) (c : Ctx) : Prop := (R.flatMap sub).Sublist (addrsAll n c.addr)

theorem ord_nil (n : Node) (c : Ctx) : Ord [] n c := List.nil_sublist _

theorem ord_self (n : Node) (c : Ctx) : Ord [(n, c)] n c := by
  rw [Ord, List.flatMap_singleton]; exact List.Sublist.refl _

theorem ord_below {R : List NC} {n : Node} {c : Ctx} (h : (R.flatMap sub).Sublist (addrsBelow n c.addr)) : Ord R n c := by
  unfold Ord
  rw [addrsAll_eq]
  exact List.Sublist.cons _ h

theorem ord_sublist {R R' : List NC} {n : Node} {c : Ctx} (h : R'.Sublist R) (ho : Ord R n c) : Ord R' n c :=
  List.Sublist.trans (flatMap_sublist_of_sublist sub h) ho

theorem ord_child {n m : Node} {c : Ctx} {r : Ref} (pr : PRef) (sec : Str) (h : n.child? r = some m) :
    Ord [(m, c.child r pr sec)] n c := by
  apply ord_below
  rw [List.flatMap_singleton]
  exact child_embed c.addr h

/-- The subtrees of the elements of a list, walked with positions (`F` is `seqKidsFrom c` or
`anchorKids.go a c`, whatever path section they report), are the addresses below the list. -/
theorem idxKids_sub {c : Ctx} {sec : Nat → Str} {F : List Node → Nat → List NC} (h0 : ∀ i, F [] i = [])
    (h1 : ∀ n ns i, F (n :: ns) i = (n, c.child (.idx i) (.idx i) (sec i)) :: F ns (i + 1)) :
    ∀ (items : List Node) (i : Nat), (F items i).flatMap sub = addrsAll.addrsSeq c.addr items i := by
  intro items
  induction items with
  | nil => intro i; rw [h0]; rfl
  | cons n ns ih => intro i; rw [h1, List.flatMap_cons, ih]; rfl

theorem keyKids_sub (c : Ctx) (sec : Key → Str) : ∀ (es : List (Key × Node)),
    (es.map (fun kv => (kv.2, c.child (.key kv.1) (.key kv.1) (sec kv.1)))).flatMap sub
      = addrsAll.addrsMap c.addr es := by
  intro es
  induction es with
  | nil => rfl
  | cons kv es ih => rw [List.map_cons, List.flatMap_cons, ih]; rfl

theorem setKids_sub (c : Ctx) (ms : List Key) :
    (setKids c ms).flatMap sub = ms.map (fun k => c.addr ++ [Ref.member k]) := by
  induction ms with
  | nil => rfl
  | cons k ks ih =>
    rw [setKids, List.map_cons, List.flatMap_cons, ← setKids, ih]
    rfl

theorem kids_sub (n : Node) (c : Ctx) : (kids n c).flatMap sub = addrsBelow n c.addr := by
  cases n with
  | scalar a v => rfl
  | seq a items => exact idxKids_sub (fun _ => rfl) (fun _ _ _ => rfl) items 0
  | map a es => exact keyKids_sub c (fun k => escSection k.text) es
  | set a ms => exact setKids_sub c ms

theorem ord_kids {R : List NC} {n : Node} {c : Ctx} (h : R.Sublist (kids n c)) : Ord R n c := by
  apply ord_below
  rw [← kids_sub]
  exact flatMap_sublist_of_sublist sub h

/-- The results of a continuation at ordered roots, each ordered below its root, are ordered. -/
theorem flatMap_sub_bindList {f : NC → Gen NC} {l : List NC} (h : ∀ x ∈ l, Ord (f x).1 x.1 x.2) :
    ((bindList f l).1.flatMap sub).Sublist (l.flatMap sub) := by
  refine (flatMap_sublist_of_sublist sub (bindList_fst_sublist f l)).trans ?_
  rw [List.flatMap_assoc]
  exact flatMap_sublist_pointwise l h

theorem ord_elemAt {a : Option Str} (items : List Node) (i : Int) (c : Ctx) :
    Ord (elemAt items i c).1 (.seq a items) c := by
  rcases elemAt_eq items i c with h | ⟨x, _, hx, h⟩
  · rw [h]; exact ord_nil _ _
  · rw [h]; exact ord_child _ _ hx

theorem ord_keyStep (k : Str) (tl : Bool) (n : Node) (c : Ctx) : Ord (keyStep k tl n c).1 n c :=
  keyStep_induct k tl (Q := fun n c g => Ord g.1 n c) ord_nil (fun _ _ _ _ _ hv _ => ord_child _ _ hv)
    (fun _ _ _ _ hm _ => ord_child _ _ (child?_set_member hm)) (fun _ items c i => ord_elemAt items i c)
    (fun a items c ih => ord_below (kids_sub (.seq a items) c ▸ flatMap_sub_bindList ih)) n c

theorem ord_passThrough (k : Str) (tl : Bool) (c : Ctx) : (items : List Node) → (i : Nat) →
    ((keyStep.passThrough k tl c items i).1.flatMap sub).Sublist (addrsAll.addrsSeq c.addr items i) := by
  intro items i
  rw [passThrough_kids, ← idxKids_sub (F := seqKidsFrom c) (fun _ => rfl) (fun _ _ _ => rfl)]
  exact flatMap_sub_bindList (fun x _ => ord_keyStep k tl x.1 x.2)

theorem anchorKids_sub (an : Str) (n : Node) (c : Ctx) :
    ((anchorKids an n c).flatMap sub).Sublist (addrsBelow n c.addr) := by
  cases n with
  | scalar a v => exact List.nil_sublist _
  | set a ms => exact List.nil_sublist _
  | seq a items =>
    show ((anchorKids.go an c items 0).flatMap sub).Sublist _
    rw [idxKids_sub (fun _ => rfl) (fun _ _ _ => rfl)]
    exact List.Sublist.refl _
  | map a es =>
    show ((es.map _).flatMap sub).Sublist _
    rw [keyKids_sub c (fun _ => anchorSection an)]
    exact List.Sublist.refl _

variable {mt : Matcher} {dsc : Desc} {rt : Node}

theorem ord_searchStep (inv : Bool) (m : Method) (attr term : Str) (tl : Bool) (n : Node) (c : Ctx) :
    Ord (searchStep mt dsc inv m attr term tl n c).1 n c := by
  rcases searchStep_sublist (mt := mt) (dsc := dsc) inv m attr term tl n c with h | h | ⟨a, es, v, rfl, hv, h⟩
  · exact ord_kids h
  · exact ord_sublist h (ord_self _ _)
  · exact ord_sublist h (ord_child _ _ hv)

/-- The document nodes a result list designates (a virtual slice list stands for its members). -/
def flatR (l : List Res) : List NC := l.flatMap (fun r => match r with | .real x => [x] | .virt items => items)

theorem flatR_map_real (l : List NC) : flatR (l.map Res.real) = l := by
  induction l with
  | nil => rfl
  | cons x xs ih => simp only [flatR, List.map_cons, List.flatMap_cons] at ih ⊢; rw [ih]; rfl

/-- Segments whose results come in document order without repetition: everything but `**`, slices and
keyword searches (`[parent()]` climbs; inverted `max`/`min`/`unique` yield in the order of their loops). -/
def _root_.Ypv.ESeg.ordered : ESeg → Bool
  | .traverse => false
  | .slice .. => false
  | .keyword .. => false
  | _ => true

theorem ord_stepSeg (s : ESeg) (hs : s.ordered = true) (rest : List ESeg) (tl : Bool) (n : Node) (c : Ctx) :
    ∃ g : Gen NC, stepSeg mt dsc rt s rest tl n c = g.map Res.real ∧ Ord g.1 n c := by
  cases s with
  | key k => exact ⟨_, stepSeg_key .., ord_keyStep k tl n c⟩
  | index i =>
    refine ⟨_, stepSeg_index .., ?_⟩
    cases n with
    | seq a items => exact ord_elemAt _ _ _
    | _ => exact ord_nil _ _
  | anchor a =>
    exact ⟨_, stepSeg_anchor .., ord_below
      (List.Sublist.trans (flatMap_sublist_of_sublist sub List.filter_sublist) (anchorKids_sub a n c))⟩
  | search inv m attr term => exact ⟨_, stepSeg_search .., ord_searchStep inv m attr term tl n c⟩
  | matchAll =>
    cases rest with
    | nil => exact ⟨Gen.ofList (kids n c), rfl, ord_kids (List.Sublist.refl _)⟩
    | cons nxt rest' =>
      exact ⟨_, rfl, ord_kids (List.Sublist.trans (filterFirst_sublist _ _) (deepKids_sublist n c))⟩
  | collector e op => cases rest <;> exact ⟨Gen.fail .outOfModel, rfl, ord_nil _ _⟩
  | unknown => cases rest <;> exact ⟨Gen.fail .outOfModel, rfl, ord_nil _ _⟩
  | slice | traverse | keyword => cases hs

/-- The results of a path of `ordered` segments (no `**`, no slice, no keyword search) come in
document order, pairwise disjoint. -/
theorem ord_required : ∀ (segs : List ESeg), (∀ s ∈ segs, s.ordered = true) → ∀ (n : Node) (c : Ctx),
    Ord (flatR (required mt dsc rt segs (.real (n, c))).1) n c := by
  intro segs
  induction segs with
  | nil => intro _ n c; exact ord_self n c
  | cons s rest ih =>
    intro hs n c
    obtain ⟨g, hg, hord⟩ := ord_stepSeg (mt := mt) (dsc := dsc) (rt := rt) s (hs s List.mem_cons_self) rest true n c
    have ih' := ih (fun t ht => hs t (List.mem_cons_of_mem _ ht))
    simp only [required, stepRes, hg, bind_map]
    have h2 : (flatR (g.bind fun x => required mt dsc rt rest (Res.real x)).1).Sublist
        (g.1.flatMap (fun x => flatR (required mt dsc rt rest (Res.real x)).1)) := by
      have := flatMap_sublist_of_sublist (fun r => match r with | Res.real x => [x] | Res.virt items => items)
        (bind_fst_sublist g (fun x => required mt dsc rt rest (Res.real x)))
      rwa [List.flatMap_assoc] at this
    refine List.Sublist.trans (flatMap_sublist_of_sublist sub h2) ?_
    rw [List.flatMap_assoc]
    exact List.Sublist.trans (flatMap_sublist_pointwise g.1 (fun x _ => ih' x.1 x.2)) hord

theorem addrs_sublist_flatMap_sub (R : List NC) : (R.map (·.2.addr)).Sublist (R.flatMap sub) := by
  induction R with
  | nil => exact List.Sublist.refl _
  | cons x xs ih =>
    rw [List.map_cons, List.flatMap_cons, sub, addrsAll_eq]
    exact List.Sublist.cons_cons _ (List.Sublist.trans ih (List.sublist_append_right _ _))

end Eval
end Ypv
