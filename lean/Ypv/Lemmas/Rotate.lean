import Ypv.Model.Rotate
/-!
# The rotation walk (C19)

At an encrypted scalar and at a container, `rotNode` is `visit` applied to the walk of what the node
holds (`rotNode_scalar`, `rotNode_seq`, `rotNode_map`).  Each property of the walk is one fact about
`visit` and a mutual recursion over node, list and entries that carries it through the document.
-/
namespace Ypv.Rotate
open Ypv

/-! ### the relation between a document and its rotated image, and what is assumed -/

mutual
/-- same shape, same keys, same order, same anchors; scalars related by `P` -/
def Rel (P : Scalar → Scalar → Prop) : Node → Node → Prop
  | .scalar a v, .scalar a' v' => a = a' ∧ P v v'
  | .seq a xs, .seq a' ys => a = a' ∧ RelL P xs ys
  | .map a es, .map a' fs => a = a' ∧ RelE P es fs
  | .set a ms, .set a' ms' => a = a' ∧ ms = ms'
  | _, _ => False
def RelL (P : Scalar → Scalar → Prop) : List Node → List Node → Prop
  | [], [] => True
  | x :: xs, y :: ys => Rel P x y ∧ RelL P xs ys
  | _, _ => False
def RelE (P : Scalar → Scalar → Prop) : List (Key × Node) → List (Key × Node) → Prop
  | [], [] => True
  | (k, x) :: es, (k', y) :: fs => k = k' ∧ Rel P x y ∧ RelE P es fs
  | _, _ => False
end

/-- What the property asks of one scalar: an encrypted value becomes a value that the tool
decrypts under the new key to the same plaintext and no longer decrypts under the old key (and
still carries the marker); anything else is untouched. -/
def Good (C : Cipher) (old new : Str) (v v' : Scalar) : Prop :=
  if isSecret v = true then
    ∃ s s' p, v = .str s ∧ v' = .str s' ∧ decryptValue C old s = some p ∧
      decryptValue C new s' = some p ∧ decryptValue C old s' = none ∧ isEyaml s' = true
  else v' = v

mutual
/-- Well-formed input: nodes carrying one anchor name are one node (`tbl`), and no plaintext
looks encrypted itself (known finding C19-F2). -/
def WF (C : Cipher) (old : Str) (tbl : Str → Option Node) : Node → Prop
  | .scalar a v =>
    (∀ an, a = some an → tbl an = some (.scalar a v)) ∧
    (∀ s p, v = .str s → decryptValue C old s = some p → isEyaml p = false)
  | .seq a xs => (∀ an, a = some an → tbl an = some (.seq a xs)) ∧ WFL C old tbl xs
  | .map a es => (∀ an, a = some an → tbl an = some (.map a es)) ∧ WFE C old tbl es
  | .set _ _ => True
def WFL (C : Cipher) (old : Str) (tbl : Str → Option Node) : List Node → Prop
  | [] => True
  | x :: xs => WF C old tbl x ∧ WFL C old tbl xs
def WFE (C : Cipher) (old : Str) (tbl : Str → Option Node) : List (Key × Node) → Prop
  | [] => True
  | (_, x) :: es => WF C old tbl x ∧ WFE C old tbl es
end

/-- Invariant of the rotation loop: a recorded node is the rotated image of the node its anchor names. -/
def Inv (C : Cipher) (old new : Str) (tbl : Str → Option Node) (seen : List (Str × Node)) : Prop :=
  ∀ an n', seen.lookup an = some n' → ∀ n, tbl an = some n → Rel (Good C old new) n n'

/-- The cipher laws the theorems assume (hypotheses, never axioms).  `decryptValue` is the tool's
own notion of "the plaintext of a value under a key". -/
structure Laws (C : Cipher) (old new : Str) : Prop where
  /-- what was encrypted under the new key decrypts under the new key to the same plaintext -/
  roundtrip : ∀ n s p, decryptValue C old s = some p → isEyaml p = false →
    decryptValue C new (C.enc new n p) = some p
  /-- … and does not decrypt under the old key -/
  wrongKey : ∀ n p, decryptValue C old (C.enc new n p) = none
  /-- a ciphertext carries the marker -/
  marked : ∀ n p, isEyaml (C.enc new n p) = true

/-! ### what the loop does at one node -/

-- otherwise `whnf` of the loop at a string scalar runs on into `isEyaml s`, down to the marker literal
attribute [local irreducible] isEyaml

theorem lookup_cons_ne {an an' : Str} (h : an' ≠ an) (n : Node) (s : List (Str × Node)) :
    ((an, n) :: s).lookup an' = s.lookup an' := by
  rw [List.lookup_cons, beq_false_of_ne h]

theorem lookup_cons_self (an : Str) (n : Node) (s : List (Str × Node)) : ((an, n) :: s).lookup an = some n :=
  List.lookup_cons_self

/-- The loop at a node it records, `r` being the node rebuilt from the walk of what it holds: without
an anchor that is the result; the first visit of an anchor also records the image; a later visit
takes the recorded image and walks nothing (`bare`: does the image make the run fail). -/
def visit (bare : Node → Bool) (a : Option Str) (st : St) (r : Node × St) : Node × St :=
  match a with
  | none => r
  | some an =>
    match st.seen.lookup an with
    | some n' => (n', { st with failed := st.failed || bare n' })
    | none => (r.1, { r.2 with seen := (an, r.1) :: r.2.seen })

section
variable {bare : Node → Bool} {a : Option Str} {st : St} {r : Node × St}

theorem visit_hit {an : Str} {n' : Node} (h : st.seen.lookup an = some n') :
    visit bare (some an) st r = (n', { st with failed := st.failed || bare n' }) := by
  simp only [visit, h]

theorem visit_first {an : Str} (h : st.seen.lookup an = none) :
    visit bare (some an) st r = (r.1, { r.2 with seen := (an, r.1) :: r.2.seen }) := by
  simp only [visit, h]

theorem visit_failed_mono (h : st.failed = true) (hr : r.2.failed = true) :
    (visit bare a st r).2.failed = true := by
  cases a with
  | none => exact hr
  | some an =>
    cases hl : st.seen.lookup an with
    | some n' => rw [visit_hit hl]; show (st.failed || bare n') = true; rw [h]; rfl
    | none => rw [visit_first hl]; exact hr

theorem visit_counters (hr : r.2.changed = st.changed ∧ r.2.nonce = st.nonce ∧ r.2.decs = st.decs) :
    (visit bare a st r).2.changed = st.changed ∧ (visit bare a st r).2.nonce = st.nonce ∧
      (visit bare a st r).2.decs = st.decs := by
  cases a with
  | none => exact hr
  | some an =>
    cases hl : st.seen.lookup an with
    | some n' => rw [visit_hit hl]; exact ⟨rfl, rfl, rfl⟩
    | none => rw [visit_first hl]; exact hr

theorem visit_new {an : Str} (hn : st.seen.lookup an = none)
    (hs : (visit bare a st r).2.seen.lookup an ≠ none) :
    a = some an ∨ r.2.seen.lookup an ≠ none := by
  cases a with
  | none => exact .inr hs
  | some an0 =>
    cases hl : st.seen.lookup an0 with
    | some n' => rw [visit_hit hl] at hs; exact absurd hn hs
    | none =>
      rw [visit_first hl] at hs
      by_cases e : an = an0
      · exact .inl (e ▸ rfl)
      · rw [lookup_cons_ne e] at hs; exact .inr hs

end

theorem rotNode_scalar (C : Cipher) (old new : Str) (a : Option Str) (v : Scalar) (st : St) :
    (isSecret v = false ∧ rotNode C old new (.scalar a v) st = (.scalar a v, st)) ∨
    ∃ s, v = .str s ∧ isEyaml s = true ∧ rotNode C old new (.scalar a v) st =
      visit (fun _ => false) a st (.scalar a (rotValue C old new s st).1, (rotValue C old new s st).2) := by
  cases v with
  | str s =>
    cases hs : isEyaml s with
    | false => exact .inl ⟨hs, if_neg (hs ▸ Bool.false_ne_true)⟩
    | true =>
      refine .inr ⟨s, rfl, hs, (if_pos hs).trans ?_⟩
      cases a with
      | none => rfl
      | some an =>
        show (match st.seen.lookup an with | some n' => _ | none => _) = _
        cases h : st.seen.lookup an with
        | some n' => rw [visit_hit h, Bool.or_false]
        | none => rw [visit_first h]
  | _ => exact .inl ⟨rfl, rfl⟩

theorem rotNode_seq (C : Cipher) (old new : Str) (a : Option Str) (xs : List Node) (st : St) :
    rotNode C old new (.seq a xs) st =
      visit hasBareSecret a st (.seq a (rotList C old new xs st).1, (rotList C old new xs st).2) := by
  cases a <;> rfl

theorem rotNode_map (C : Cipher) (old new : Str) (a : Option Str) (es : List (Key × Node)) (st : St) :
    rotNode C old new (.map a es) st =
      visit hasBareSecret a st (.map a (rotEntries C old new es st).1, (rotEntries C old new es st).2) := by
  cases a <;> rfl

theorem rotValue_seen (C : Cipher) (old new : Str) (s : Str) (st : St) :
    (rotValue C old new s st).2.seen = st.seen := by
  unfold rotValue
  split
  · rfl
  · split
    · rfl
    · rfl

theorem rotValue_failed_mono (C : Cipher) (old new : Str) (s : Str) (st : St) (h : st.failed = true) :
    (rotValue C old new s st).2.failed = true := by
  unfold rotValue
  split
  · rfl
  · split
    · rfl
    · exact h

mutual
/-- a failure is never forgotten -/
theorem rotNode_failed_mono (C : Cipher) (old new : Str) :
    ∀ (n : Node) (st : St), st.failed = true → (rotNode C old new n st).2.failed = true
  | .scalar a v => fun st h => by
    rcases rotNode_scalar C old new a v st with ⟨_, e⟩ | ⟨s, _, _, e⟩ <;> rw [e]
    · exact h
    · exact visit_failed_mono h (rotValue_failed_mono C old new s st h)
  | .seq a xs => fun st h => by
    rw [rotNode_seq]; exact visit_failed_mono h (rotList_failed_mono C old new xs st h)
  | .map a es => fun st h => by
    rw [rotNode_map]; exact visit_failed_mono h (rotEntries_failed_mono C old new es st h)
  | .set _ _ => fun _ h => h
theorem rotList_failed_mono (C : Cipher) (old new : Str) :
    ∀ (xs : List Node) (st : St), st.failed = true → (rotList C old new xs st).2.failed = true
  | [] => fun _ h => h
  | x :: xs => fun st h => rotList_failed_mono C old new xs _ (rotNode_failed_mono C old new x st h)
theorem rotEntries_failed_mono (C : Cipher) (old new : Str) :
    ∀ (es : List (Key × Node)) (st : St), st.failed = true → (rotEntries C old new es st).2.failed = true
  | [] => fun _ h => h
  | (_, x) :: es => fun st h => rotEntries_failed_mono C old new es _ (rotNode_failed_mono C old new x st h)
end

/-! ### a run without failure re-keys every secret -/

/-- One secret: if the loop has not failed afterwards, the value was re-keyed. -/
theorem rotValue_good (C : Cipher) (old new : Str) (L : Laws C old new) (s : Str) (st : St)
    (hs : isEyaml s = true)
    (hp : ∀ p, decryptValue C old s = some p → isEyaml p = false)
    (hf : (rotValue C old new s st).2.failed = false) :
    Good C old new (.str s) (rotValue C old new s st).1 := by
  unfold rotValue at hf ⊢
  cases hdec : decryptValue C old s with
  | none => rw [hdec] at hf; cases hf
  | some p =>
    have hpe := hp p hdec
    simp only [hdec, encryptValue, hpe, Bool.false_eq_true, if_false] at hf ⊢
    by_cases hne : pyRstrip (C.enc new st.nonce p) = []
    · rw [if_pos hne] at hf; cases hf
    · rw [if_neg hne]
      unfold Good
      rw [if_pos (show isSecret (.str s) = true from hs)]
      exact ⟨s, _, p, rfl, rfl, hdec, L.roundtrip _ _ _ hdec hpe, L.wrongKey _ _, L.marked _ _⟩

/-- `n` is the visited node, `hr` what the walk below it gives. -/
theorem visit_ok {C : Cipher} {old new : Str} {tbl : Str → Option Node} {bare : Node → Bool}
    {a : Option Str} {st : St} {r : Node × St} {n : Node}
    (hinv : Inv C old new tbl st.seen) (htbl : ∀ an, a = some an → tbl an = some n)
    (hf : (visit bare a st r).2.failed = false)
    (hr : r.2.failed = false → Rel (Good C old new) n r.1 ∧ Inv C old new tbl r.2.seen) :
    Rel (Good C old new) n (visit bare a st r).1 ∧ Inv C old new tbl (visit bare a st r).2.seen := by
  cases a with
  | none => exact hr hf
  | some an =>
    cases hl : st.seen.lookup an with
    | some n' =>
      rw [visit_hit hl]
      exact ⟨hinv an n' hl n (htbl an rfl), hinv⟩
    | none =>
      rw [visit_first hl] at hf ⊢
      obtain ⟨h1, h2⟩ := hr hf
      refine ⟨h1, fun an' m' hl' m hm => ?_⟩
      by_cases e : an' = an
      · subst e
        rw [lookup_cons_self] at hl'; cases hl'
        rw [htbl an' rfl] at hm; cases hm
        exact h1
      · rw [lookup_cons_ne e] at hl'
        exact h2 an' m' hl' m hm

theorem eq_false_of_imp {b b' : Bool} (mono : b = true → b' = true) (h : b' = false) : b = false :=
  Bool.eq_false_iff.mpr fun hb => Bool.false_ne_true (h.symm.trans (mono hb))

mutual
/-- The loop invariant: if the loop has not failed after a node, the node's image is pointwise
`Good` and the recorded images stay correct. -/
theorem rotNode_ok (C : Cipher) (old new : Str) (L : Laws C old new) (tbl : Str → Option Node) :
    ∀ (n : Node) (st : St), WF C old tbl n → Inv C old new tbl st.seen →
      (rotNode C old new n st).2.failed = false →
      Rel (Good C old new) n (rotNode C old new n st).1 ∧ Inv C old new tbl (rotNode C old new n st).2.seen
  | .scalar a v => fun st hwf hinv hf => by
    rcases rotNode_scalar C old new a v st with ⟨hs, e⟩ | ⟨s, rfl, hs, e⟩ <;> rw [e] at hf ⊢
    · exact ⟨⟨rfl, by unfold Good; simp [hs]⟩, hinv⟩
    · exact visit_ok hinv hwf.1 hf fun hf' =>
        ⟨⟨rfl, rotValue_good C old new L s st hs (fun p => hwf.2 s p rfl) hf'⟩, by rw [rotValue_seen]; exact hinv⟩
  | .seq a xs => fun st hwf hinv hf => by
    rw [rotNode_seq] at hf ⊢
    refine visit_ok hinv hwf.1 hf fun hf' => ?_
    have h := rotList_ok C old new L tbl xs st hwf.2 hinv hf'
    exact ⟨⟨rfl, h.1⟩, h.2.1⟩
  | .map a es => fun st hwf hinv hf => by
    rw [rotNode_map] at hf ⊢
    refine visit_ok hinv hwf.1 hf fun hf' => ?_
    have h := rotEntries_ok C old new L tbl es st hwf.2 hinv hf'
    exact ⟨⟨rfl, h.1⟩, h.2.1⟩
  | .set _ _ => fun _ _ hinv _ => ⟨⟨rfl, rfl⟩, hinv⟩
theorem rotList_ok (C : Cipher) (old new : Str) (L : Laws C old new) (tbl : Str → Option Node) :
    ∀ (xs : List Node) (st : St), WFL C old tbl xs → Inv C old new tbl st.seen →
      (rotList C old new xs st).2.failed = false →
      RelL (Good C old new) xs (rotList C old new xs st).1 ∧
      Inv C old new tbl (rotList C old new xs st).2.seen ∧ st.failed = false
  | [] => fun _ _ hinv hf => ⟨trivial, hinv, hf⟩
  | x :: xs => fun st hwf hinv hf => by
    have hmid := eq_false_of_imp (rotList_failed_mono C old new xs _) hf
    have a1 := rotNode_ok C old new L tbl x st hwf.1 hinv hmid
    have a2 := rotList_ok C old new L tbl xs _ hwf.2 a1.2 hf
    exact ⟨⟨a1.1, a2.1⟩, a2.2.1, eq_false_of_imp (rotNode_failed_mono C old new x st) hmid⟩
theorem rotEntries_ok (C : Cipher) (old new : Str) (L : Laws C old new) (tbl : Str → Option Node) :
    ∀ (es : List (Key × Node)) (st : St), WFE C old tbl es → Inv C old new tbl st.seen →
      (rotEntries C old new es st).2.failed = false →
      RelE (Good C old new) es (rotEntries C old new es st).1 ∧
      Inv C old new tbl (rotEntries C old new es st).2.seen ∧ st.failed = false
  | [] => fun _ _ hinv hf => ⟨trivial, hinv, hf⟩
  | (_, x) :: es => fun st hwf hinv hf => by
    have hmid := eq_false_of_imp (rotEntries_failed_mono C old new es _) hf
    have a1 := rotNode_ok C old new L tbl x st hwf.1 hinv hmid
    have a2 := rotEntries_ok C old new L tbl es _ hwf.2 a1.2 hf
    exact ⟨⟨rfl, a1.1, a2.1⟩, a2.2.1, eq_false_of_imp (rotNode_failed_mono C old new x st) hmid⟩
end

/-! ### the frame: everything but the text of secrets -/

mutual
/-- the document with the text of every encrypted scalar blanked -/
def mask : Node → Node
  | .scalar a v => .scalar a (if isSecret v then .str [] else v)
  | .seq a xs => .seq a (maskL xs)
  | .map a es => .map a (maskE es)
  | .set a ms => .set a ms
def maskL : List Node → List Node
  | [] => []
  | x :: xs => mask x :: maskL xs
def maskE : List (Key × Node) → List (Key × Node)
  | [] => []
  | (k, x) :: es => (k, mask x) :: maskE es
end

theorem good_mask (C : Cipher) (old new : Str) (v v' : Scalar) (h : Good C old new v v') :
    (if isSecret v' then Scalar.str [] else v') = (if isSecret v then Scalar.str [] else v) := by
  unfold Good at h
  by_cases hs : isSecret v = true
  · rw [if_pos hs] at h ⊢
    obtain ⟨s, s', p, _, rfl, _, _, _, hm⟩ := h
    rw [if_pos (show isSecret (.str s') = true from hm)]
  · rw [if_neg hs] at h
    rw [h]

mutual
theorem mask_of_rel (C : Cipher) (old new : Str) :
    ∀ (n n' : Node), Rel (Good C old new) n n' → mask n' = mask n
  | .scalar a v => fun n' h => by
    cases n' with
    | scalar a' v' => exact h.1 ▸ congrArg (Node.scalar a) (good_mask C old new v v' h.2)
    | _ => exact h.elim
  | .seq a xs => fun n' h => by
    cases n' with
    | seq a' ys => exact h.1 ▸ congrArg (Node.seq a) (maskL_of_rel C old new xs ys h.2)
    | _ => exact h.elim
  | .map a es => fun n' h => by
    cases n' with
    | map a' fs => exact h.1 ▸ congrArg (Node.map a) (maskE_of_rel C old new es fs h.2)
    | _ => exact h.elim
  | .set a ms => fun n' h => by
    cases n' with
    | set a' ms' => rw [h.1, h.2]
    | _ => exact h.elim
theorem maskL_of_rel (C : Cipher) (old new : Str) :
    ∀ (xs ys : List Node), RelL (Good C old new) xs ys → maskL ys = maskL xs
  | [] => fun ys h => by
    cases ys with
    | nil => rfl
    | cons => exact h.elim
  | x :: xs => fun ys h => by
    cases ys with
    | nil => exact h.elim
    | cons y ys =>
      show mask y :: maskL ys = mask x :: maskL xs
      rw [mask_of_rel C old new x y h.1, maskL_of_rel C old new xs ys h.2]
theorem maskE_of_rel (C : Cipher) (old new : Str) :
    ∀ (es fs : List (Key × Node)), RelE (Good C old new) es fs → maskE fs = maskE es
  | [] => fun fs h => by
    cases fs with
    | nil => rfl
    | cons => exact h.elim
  | (k, x) :: es => fun fs h => by
    cases fs with
    | nil => exact h.elim
    | cons f fs =>
      show (f.1, mask f.2) :: maskE fs = (k, mask x) :: maskE es
      rw [h.1, mask_of_rel C old new x f.2 h.2.1, maskE_of_rel C old new es fs h.2.2]
end

/-! ### a document without secrets -/

mutual
theorem rotNode_noSecret (C : Cipher) (old new : Str) :
    ∀ (n : Node) (st : St), noSecret n = true →
      (rotNode C old new n st).2.changed = st.changed ∧ (rotNode C old new n st).2.nonce = st.nonce ∧
      (rotNode C old new n st).2.decs = st.decs
  | .scalar a v => fun st h => by
    rcases rotNode_scalar C old new a v st with ⟨_, e⟩ | ⟨s, rfl, hs, _⟩
    · rw [e]; exact ⟨rfl, rfl, rfl⟩
    · simp [noSecret, isSecret, hs] at h
  | .seq a xs => fun st h => by
    rw [rotNode_seq]; exact visit_counters (rotList_noSecret C old new xs st h)
  | .map a es => fun st h => by
    rw [rotNode_map]; exact visit_counters (rotEntries_noSecret C old new es st h)
  | .set _ _ => fun _ _ => ⟨rfl, rfl, rfl⟩
theorem rotList_noSecret (C : Cipher) (old new : Str) :
    ∀ (xs : List Node) (st : St), noSecretL xs = true →
      (rotList C old new xs st).2.changed = st.changed ∧ (rotList C old new xs st).2.nonce = st.nonce ∧
      (rotList C old new xs st).2.decs = st.decs
  | [] => fun _ _ => ⟨rfl, rfl, rfl⟩
  | x :: xs => fun st h => by
    have h := Bool.and_eq_true_iff.mp h
    have h1 := rotNode_noSecret C old new x st h.1
    have h2 := rotList_noSecret C old new xs (rotNode C old new x st).2 h.2
    exact ⟨h2.1.trans h1.1, h2.2.1.trans h1.2.1, h2.2.2.trans h1.2.2⟩
theorem rotEntries_noSecret (C : Cipher) (old new : Str) :
    ∀ (es : List (Key × Node)) (st : St), noSecretE es = true →
      (rotEntries C old new es st).2.changed = st.changed ∧ (rotEntries C old new es st).2.nonce = st.nonce ∧
      (rotEntries C old new es st).2.decs = st.decs
  | [] => fun _ _ => ⟨rfl, rfl, rfl⟩
  | (_, x) :: es => fun st h => by
    have h := Bool.and_eq_true_iff.mp h
    have h1 := rotNode_noSecret C old new x st h.1
    have h2 := rotEntries_noSecret C old new es (rotNode C old new x st).2 h.2
    exact ⟨h2.1.trans h1.1, h2.2.1.trans h1.2.1, h2.2.2.trans h1.2.2⟩
end

/-! ### the walk below an anchored container does not record the container's own anchor -/

mutual
/-- number of nodes -/
def nsize : Node → Nat
  | .scalar _ _ => 1
  | .seq _ xs => 1 + nsizeL xs
  | .map _ es => 1 + nsizeE es
  | .set _ _ => 1
def nsizeL : List Node → Nat
  | [] => 0
  | x :: xs => nsize x + nsizeL xs
def nsizeE : List (Key × Node) → Nat
  | [] => 0
  | (_, x) :: es => nsize x + nsizeE es
end

theorem nsize_seq (a : Option Str) (xs : List Node) : nsize (.seq a xs) = 1 + nsizeL xs := rfl
theorem nsize_map (a : Option Str) (es : List (Key × Node)) : nsize (.map a es) = 1 + nsizeE es := rfl
theorem nsizeL_cons (x : Node) (xs : List Node) : nsizeL (x :: xs) = nsize x + nsizeL xs := rfl
theorem nsizeE_cons (k : Key) (x : Node) (es : List (Key × Node)) : nsizeE ((k, x) :: es) = nsize x + nsizeE es := rfl

/-- an anchor recorded by the first or the second of two walks, each recording only anchors of
nodes no bigger than what it walks -/
theorem new_cons {tbl : Str → Option Node} {an : Str} {s1 s2 : List (Str × Node)} {k1 k2 : Nat}
    (h1 : s1.lookup an ≠ none → ∃ m, tbl an = some m ∧ nsize m ≤ k1)
    (h2 : s1.lookup an = none → s2.lookup an ≠ none → ∃ m, tbl an = some m ∧ nsize m ≤ k2)
    (hs : s2.lookup an ≠ none) : ∃ m, tbl an = some m ∧ nsize m ≤ k1 + k2 := by
  cases h : s1.lookup an with
  | some n' =>
    obtain ⟨m, e, hle⟩ := h1 (by rw [h]; exact Option.some_ne_none _)
    exact ⟨m, e, Nat.le_trans hle (Nat.le_add_right _ _)⟩
  | none =>
    obtain ⟨m, e, hle⟩ := h2 h hs
    exact ⟨m, e, Nat.le_trans hle (Nat.le_add_left _ _)⟩

mutual
/-- an anchor recorded while a node is walked names a node no bigger than the walked one -/
theorem rotNode_new (C : Cipher) (old new : Str) (tbl : Str → Option Node) :
    ∀ (n : Node) (st : St) (an : Str), WF C old tbl n → st.seen.lookup an = none →
      (rotNode C old new n st).2.seen.lookup an ≠ none → ∃ m, tbl an = some m ∧ nsize m ≤ nsize n
  | .scalar a v => fun st an hwf hn hs => by
    rcases rotNode_scalar C old new a v st with ⟨_, e⟩ | ⟨s, _, _, e⟩ <;> rw [e] at hs
    · exact absurd hn hs
    · rcases visit_new hn hs with rfl | h
      · exact ⟨_, hwf.1 an rfl, Nat.le_refl _⟩
      · rw [rotValue_seen] at h; exact absurd hn h
  | .seq a xs => fun st an hwf hn hs => by
    rw [rotNode_seq] at hs
    rcases visit_new hn hs with rfl | h
    · exact ⟨_, hwf.1 an rfl, Nat.le_refl _⟩
    · obtain ⟨m, h1, h2⟩ := rotList_new C old new tbl xs st hwf.2 an hn h
      exact ⟨m, h1, nsize_seq a xs ▸ Nat.le_add_left_of_le h2⟩
  | .map a es => fun st an hwf hn hs => by
    rw [rotNode_map] at hs
    rcases visit_new hn hs with rfl | h
    · exact ⟨_, hwf.1 an rfl, Nat.le_refl _⟩
    · obtain ⟨m, h1, h2⟩ := rotEntries_new C old new tbl es st hwf.2 an hn h
      exact ⟨m, h1, nsize_map a es ▸ Nat.le_add_left_of_le h2⟩
  | .set _ _ => fun _ _ _ hn hs => absurd hn hs
theorem rotList_new (C : Cipher) (old new : Str) (tbl : Str → Option Node) :
    ∀ (xs : List Node) (st : St), WFL C old tbl xs → ∀ an, st.seen.lookup an = none →
      (rotList C old new xs st).2.seen.lookup an ≠ none → ∃ m, tbl an = some m ∧ nsize m ≤ nsizeL xs
  | [] => fun _ _ _ hn hs => absurd hn hs
  | x :: xs => fun st hwf an hn hs =>
    new_cons (rotNode_new C old new tbl x st an hwf.1 hn) (rotList_new C old new tbl xs _ hwf.2 an) hs
theorem rotEntries_new (C : Cipher) (old new : Str) (tbl : Str → Option Node) :
    ∀ (es : List (Key × Node)) (st : St), WFE C old tbl es → ∀ an, st.seen.lookup an = none →
      (rotEntries C old new es st).2.seen.lookup an ≠ none → ∃ m, tbl an = some m ∧ nsize m ≤ nsizeE es
  | [] => fun _ _ _ hn hs => absurd hn hs
  | (_, x) :: es => fun st hwf an hn hs =>
    new_cons (rotNode_new C old new tbl x st an hwf.1 hn) (rotEntries_new C old new tbl es _ hwf.2 an) hs
end

/-- so an anchored container does not record its own anchor while what it holds is walked: that
walk records only nodes no bigger than what it walks (`hnew`), and the container is bigger -/
theorem fresh_of_new {tbl : Str → Option Node} {a : Option Str} {n : Node} {k : Nat}
    {seen seen' : List (Str × Node)} (htbl : ∀ an, a = some an → tbl an = some n) (hk : nsize n = 1 + k)
    (hnew : ∀ an, seen.lookup an = none → seen'.lookup an ≠ none → ∃ m, tbl an = some m ∧ nsize m ≤ k) :
    ∀ an, a = some an → seen.lookup an = none → seen'.lookup an = none := by
  intro an ha hl
  cases h : seen'.lookup an with
  | none => rfl
  | some x =>
    obtain ⟨m, h1, h2⟩ := hnew an hl (by rw [h]; exact Option.some_ne_none _)
    rw [htbl an ha] at h1; cases h1; omega

/-! ### sharing: all nodes of one anchor are equal in the output -/

/-- the anchor table only grows: a recorded image is never replaced -/
def Ext (s s' : List (Str × Node)) : Prop := ∀ an n', s.lookup an = some n' → s'.lookup an = some n'

theorem Ext.refl (s : List (Str × Node)) : Ext s s := fun _ _ h => h

theorem Ext.trans {s1 s2 s3 : List (Str × Node)} (h1 : Ext s1 s2) (h2 : Ext s2 s3) : Ext s1 s3 :=
  fun an n' h => h2 an n' (h1 an n' h)

theorem ext_cons {an : Str} {s : List (Str × Node)} (h : s.lookup an = none) (n : Node) : Ext s ((an, n) :: s) := by
  intro an' n' hl
  have : an' ≠ an := by intro e; subst e; rw [h] at hl; cases hl
  rw [lookup_cons_ne this]; exact hl

/-- the nodes the loop records under their anchor: encrypted scalars and containers -/
def recordable : Node → Bool
  | .scalar _ (.str s) => isEyaml s
  | .seq .. | .map .. => true
  | _ => false

/-- every recorded anchor names a node the loop records -/
def KeysRec (tbl : Str → Option Node) (seen : List (Str × Node)) : Prop :=
  ∀ an n', seen.lookup an = some n' → ∃ n, tbl an = some n ∧ recordable n = true

/-- the anchor table of the output: the recorded image, else the (unchanged) input node -/
def outTbl (tbl : Str → Option Node) (seen : List (Str × Node)) (an : Str) : Option Node :=
  match seen.lookup an with
  | some n' => some n'
  | none => tbl an

mutual
/-- every anchored node of the tree is the one node `g` gives for its anchor name -/
def AnchorsOne (g : Str → Option Node) : Node → Prop
  | .scalar a v => ∀ an, a = some an → g an = some (.scalar a v)
  | .seq a xs => (∀ an, a = some an → g an = some (.seq a xs)) ∧ AnchorsOneL g xs
  | .map a es => (∀ an, a = some an → g an = some (.map a es)) ∧ AnchorsOneE g es
  | .set _ _ => True
def AnchorsOneL (g : Str → Option Node) : List Node → Prop
  | [] => True
  | x :: xs => AnchorsOne g x ∧ AnchorsOneL g xs
def AnchorsOneE (g : Str → Option Node) : List (Key × Node) → Prop
  | [] => True
  | (_, x) :: es => AnchorsOne g x ∧ AnchorsOneE g es
end

/-- invariant of the anchor table for sharing: recorded anchors are recordable ones, and a recorded
image is consistent with every later table -/
def SInv (tbl : Str → Option Node) (seen : List (Str × Node)) : Prop :=
  KeysRec tbl seen ∧
  ∀ an n', seen.lookup an = some n' → ∀ F, Ext seen F → KeysRec tbl F → AnchorsOne (outTbl tbl F) n'

theorem outTbl_of_lookup {tbl : Str → Option Node} {F : List (Str × Node)} {an : Str} {n' : Node}
    (h : F.lookup an = some n') : outTbl tbl F an = some n' := by
  unfold outTbl; rw [h]

/-- an anchor whose node the loop does not record keeps its input node in every later table -/
theorem outTbl_plain {tbl : Str → Option Node} {F : List (Str × Node)} {an : Str} {n : Node}
    (hK : KeysRec tbl F) (ht : tbl an = some n) (hr : recordable n = false) : outTbl tbl F an = some n := by
  unfold outTbl
  cases hl : F.lookup an with
  | none => exact ht
  | some n' =>
    obtain ⟨m, h1, h2⟩ := hK an n' hl
    rw [ht] at h1; cases h1; rw [hr] at h2; cases h2

/-- `n` is the visited node; `hr`, `himg` are what the walk below it gives, `himg` for a table in
which the node's own anchor already names its image. -/
theorem visit_shared {tbl : Str → Option Node} {bare : Node → Bool} {a : Option Str} {st : St}
    {r : Node × St} {n : Node} (hS : SInv tbl st.seen)
    (htbl : ∀ an, a = some an → tbl an = some n) (hrec : recordable n = true)
    (hfresh : ∀ an, a = some an → st.seen.lookup an = none → r.2.seen.lookup an = none)
    (hr : SInv tbl r.2.seen ∧ Ext st.seen r.2.seen)
    (himg : ∀ F, Ext r.2.seen F → KeysRec tbl F → (∀ an, a = some an → outTbl tbl F an = some r.1) →
      AnchorsOne (outTbl tbl F) r.1) :
    SInv tbl (visit bare a st r).2.seen ∧ Ext st.seen (visit bare a st r).2.seen ∧
      ∀ F, Ext (visit bare a st r).2.seen F → KeysRec tbl F →
        AnchorsOne (outTbl tbl F) (visit bare a st r).1 := by
  cases a with
  | none => exact ⟨hr.1, hr.2, fun F hF hK => himg F hF hK (fun _ h => nomatch h)⟩
  | some an =>
    cases hl : st.seen.lookup an with
    | some n' => rw [visit_hit hl]; exact ⟨hS, Ext.refl _, hS.2 an n' hl⟩
    | none =>
      rw [visit_first hl]
      have hnone := hfresh an rfl hl
      have hext := ext_cons hnone r.1
      have himg' : ∀ F, Ext ((an, r.1) :: r.2.seen) F → KeysRec tbl F → AnchorsOne (outTbl tbl F) r.1 :=
        fun F hF hK => himg F (hext.trans hF) hK fun an' h => by
          cases h; exact outTbl_of_lookup (hF an _ (lookup_cons_self ..))
      -- recording the image keeps the invariant: it is consistent by `himg'`, the older ones were
      refine ⟨⟨fun an' n' hl' => ?_, fun an' n' hl' F hF hK => ?_⟩, hr.2.trans hext, himg'⟩
      · by_cases e : an' = an
        · subst e; exact ⟨n, htbl an' rfl, hrec⟩
        · rw [lookup_cons_ne e] at hl'; exact hr.1.1 an' n' hl'
      · by_cases e : an' = an
        · subst e
          rw [lookup_cons_self] at hl'; cases hl'
          exact himg' F hF hK
        · rw [lookup_cons_ne e] at hl'
          exact hr.1.2 an' n' hl' F (hext.trans hF) hK

mutual
theorem rotNode_shared (C : Cipher) (old new : Str) (tbl : Str → Option Node) :
    ∀ (n : Node) (st : St), WF C old tbl n → SInv tbl st.seen →
      SInv tbl (rotNode C old new n st).2.seen ∧ Ext st.seen (rotNode C old new n st).2.seen ∧
      ∀ F, Ext (rotNode C old new n st).2.seen F → KeysRec tbl F →
        AnchorsOne (outTbl tbl F) (rotNode C old new n st).1
  | .scalar a v => fun st hwf hS => by
    rcases rotNode_scalar C old new a v st with ⟨hs, e⟩ | ⟨s, rfl, hs, e⟩ <;> rw [e]
    · have hr : recordable (.scalar a v) = false := by
        cases v with
        | str s => exact hs
        | _ => rfl
      exact ⟨hS, Ext.refl _, fun F _ hK an ha => outTbl_plain hK (hwf.1 an ha) hr⟩
    · exact visit_shared hS hwf.1 hs (fun _ _ h => by rw [rotValue_seen]; exact h)
        (by rw [rotValue_seen]; exact ⟨hS, Ext.refl _⟩) (fun F _ _ h => h)
  | .seq a xs => fun st hwf hS => by
    have ih := rotList_shared C old new tbl xs st hwf.2 hS
    rw [rotNode_seq]
    exact visit_shared hS hwf.1 rfl
      (fresh_of_new hwf.1 (nsize_seq a xs) (rotList_new C old new tbl xs st hwf.2))
      ⟨ih.1, ih.2.1⟩ (fun F hF hK h => ⟨h, ih.2.2 F hF hK⟩)
  | .map a es => fun st hwf hS => by
    have ih := rotEntries_shared C old new tbl es st hwf.2 hS
    rw [rotNode_map]
    exact visit_shared hS hwf.1 rfl
      (fresh_of_new hwf.1 (nsize_map a es) (rotEntries_new C old new tbl es st hwf.2))
      ⟨ih.1, ih.2.1⟩ (fun F hF hK h => ⟨h, ih.2.2 F hF hK⟩)
  | .set _ _ => fun _ _ hS => ⟨hS, Ext.refl _, fun _ _ _ => trivial⟩
theorem rotList_shared (C : Cipher) (old new : Str) (tbl : Str → Option Node) :
    ∀ (xs : List Node) (st : St), WFL C old tbl xs → SInv tbl st.seen →
      SInv tbl (rotList C old new xs st).2.seen ∧ Ext st.seen (rotList C old new xs st).2.seen ∧
      ∀ F, Ext (rotList C old new xs st).2.seen F → KeysRec tbl F →
        AnchorsOneL (outTbl tbl F) (rotList C old new xs st).1
  | [] => fun _ _ hS => ⟨hS, Ext.refl _, fun _ _ _ => trivial⟩
  | x :: xs => fun st hwf hS =>
    have h1 := rotNode_shared C old new tbl x st hwf.1 hS
    have h2 := rotList_shared C old new tbl xs (rotNode C old new x st).2 hwf.2 h1.1
    ⟨h2.1, h1.2.1.trans h2.2.1, fun F hF hK => ⟨h1.2.2 F (h2.2.1.trans hF) hK, h2.2.2 F hF hK⟩⟩
theorem rotEntries_shared (C : Cipher) (old new : Str) (tbl : Str → Option Node) :
    ∀ (es : List (Key × Node)) (st : St), WFE C old tbl es → SInv tbl st.seen →
      SInv tbl (rotEntries C old new es st).2.seen ∧ Ext st.seen (rotEntries C old new es st).2.seen ∧
      ∀ F, Ext (rotEntries C old new es st).2.seen F → KeysRec tbl F →
        AnchorsOneE (outTbl tbl F) (rotEntries C old new es st).1
  | [] => fun _ _ hS => ⟨hS, Ext.refl _, fun _ _ _ => trivial⟩
  | (_, x) :: es => fun st hwf hS =>
    have h1 := rotNode_shared C old new tbl x st hwf.1 hS
    have h2 := rotEntries_shared C old new tbl es (rotNode C old new x st).2 hwf.2 h1.1
    ⟨h2.1, h1.2.1.trans h2.2.1, fun F hF hK => ⟨h1.2.2 F (h2.2.1.trans hF) hK, h2.2.2 F hF hK⟩⟩
end

/-! ### once: the number of cipher calls -/

mutual
/-- number of encrypted scalars that carry no anchor themselves -/
def bareCount : Node → Nat
  | .scalar none v => if isSecret v then 1 else 0
  | .scalar (some _) _ => 0
  | .seq _ xs => bareCountL xs
  | .map _ es => bareCountE es
  | .set _ _ => 0
def bareCountL : List Node → Nat
  | [] => 0
  | x :: xs => bareCount x + bareCountL xs
def bareCountE : List (Key × Node) → Nat
  | [] => 0
  | (_, x) :: es => bareCount x + bareCountE es
end

theorem bareCountL_cons (x : Node) (xs : List Node) : bareCountL (x :: xs) = bareCount x + bareCountL xs := rfl
theorem bareCountE_cons (k : Key) (x : Node) (es : List (Key × Node)) :
    bareCountE ((k, x) :: es) = bareCount x + bareCountE es := rfl

mutual
/-- the anchor names of the anchored encrypted scalars, one entry per occurrence -/
def secretAnchors : Node → List Str
  | .scalar (some an) v => if isSecret v then [an] else []
  | .scalar none _ => []
  | .seq _ xs => secretAnchorsL xs
  | .map _ es => secretAnchorsE es
  | .set _ _ => []
def secretAnchorsL : List Node → List Str
  | [] => []
  | x :: xs => secretAnchors x ++ secretAnchorsL xs
def secretAnchorsE : List (Key × Node) → List Str
  | [] => []
  | (_, x) :: es => secretAnchors x ++ secretAnchorsE es
end

/-- number of recorded scalar images -/
def scalarEntries (seen : List (Str × Node)) : Nat := (seen.filter (fun e => e.2.isScalar)).length

theorem scalarEntries_cons (an : Str) (n : Node) (seen : List (Str × Node)) :
    scalarEntries ((an, n) :: seen) = scalarEntries seen + if n.isScalar then 1 else 0 := by
  unfold scalarEntries
  rw [List.filter_cons]
  split <;> rfl

/-- every anchor is recorded once, and the recorded scalars are anchored secrets named in `names` -/
def CInv (names : List Str) (seen : List (Str × Node)) : Prop :=
  (seen.map (·.1)).Nodup ∧ ∀ e ∈ seen, e.2.isScalar = true → e.1 ∈ names

theorem cinv_cons {names : List Str} {seen : List (Str × Node)} {an : Str} {img : Node}
    (h : CInv names seen) (hn : seen.lookup an = none) (hi : img.isScalar = true → an ∈ names) :
    CInv names ((an, img) :: seen) := by
  refine ⟨?_, ?_⟩
  · simp only [List.map_cons]
    refine List.nodup_cons.mpr ⟨fun hm => ?_, h.1⟩
    obtain ⟨p, hp, rfl⟩ := List.mem_map.mp hm
    have := List.lookup_eq_none_iff.mp hn p hp
    simp at this
  · intro e he hs
    rcases List.mem_cons.mp he with rfl | he
    · exact hi hs
    · exact h.2 e he hs

theorem scalarEntries_le {names : List Str} {seen : List (Str × Node)} (h : CInv names seen) :
    scalarEntries seen ≤ names.length := by
  have hnd := h.1.sublist ((List.filter_sublist (l := seen) (p := fun e => e.2.isScalar)).map (·.1))
  have := hnd.length_le_of_subset (l₂ := names) fun x hx => by
    obtain ⟨e, he, rfl⟩ := List.mem_map.mp hx
    exact h.2 e (List.mem_filter.mp he).1 (List.mem_filter.mp he).2
  rwa [List.length_map] at this

/-- what one walk may add to the two call counters -/
def Calls (st st' : St) (bare : Nat) : Prop :=
  st'.decs + scalarEntries st.seen ≤ st.decs + scalarEntries st'.seen + bare ∧
  st'.nonce + scalarEntries st.seen ≤ st.nonce + scalarEntries st'.seen + bare

/-- a walk that records nothing and makes at most `b` calls of each kind -/
theorem calls_of_le {st st' : St} {b : Nat} (hs : st'.seen = st.seen) (hd : st'.decs ≤ st.decs + b)
    (hn : st'.nonce ≤ st.nonce + b) : Calls st st' b := by
  unfold Calls
  rw [hs, Nat.add_right_comm st.decs, Nat.add_right_comm st.nonce]
  exact ⟨Nat.add_le_add_right hd _, Nat.add_le_add_right hn _⟩

theorem calls_refl (st : St) (b : Nat) : Calls st st b :=
  calls_of_le rfl (Nat.le_add_right _ _) (Nat.le_add_right _ _)

theorem le_add_trans {x x' x'' s s' s'' b b' : Nat} (h : x' + s ≤ x + s' + b) (h' : x'' + s' ≤ x' + s'' + b') :
    x'' + s ≤ x + s'' + (b + b') := by omega

theorem calls_trans {st st' st'' : St} {b b' : Nat} (h : Calls st st' b) (h' : Calls st' st'' b') :
    Calls st st'' (b + b') :=
  ⟨le_add_trans h.1 h'.1, le_add_trans h.2 h'.2⟩

theorem calls_mono {st st' : St} {b b' : Nat} (h : Calls st st' b) (hb : b ≤ b') : Calls st st' b' :=
  ⟨Nat.le_trans h.1 (Nat.add_le_add_left hb _), Nat.le_trans h.2 (Nat.add_le_add_left hb _)⟩

/-- `i` more recorded entries pay for `i` of the calls -/
theorem le_add_shift {x s d s' b b' i : Nat} (h : x + s ≤ d + s' + b) (hb : b ≤ b' + i) :
    x + s ≤ d + (s' + i) + b' := by omega

/-- one decryption, at most one encryption -/
theorem rotValue_calls (C : Cipher) (old new : Str) (s : Str) (st : St) :
    Calls st (rotValue C old new s st).2 1 := by
  refine calls_of_le (rotValue_seen C old new s st) ?_ ?_ <;> unfold rotValue
  · split
    · exact Nat.le_refl _
    · split <;> exact Nat.le_refl _
  · split
    · exact Nat.le_succ _
    · split
      · exact Nat.le_succ _
      · show (if _ then _ else _) ≤ _
        split
        · exact Nat.le_refl _
        · exact Nat.le_succ _

theorem calls_init {st : St} {b n : Nat} (h : Calls St.init st b) (hle : scalarEntries st.seen ≤ n) :
    st.decs ≤ b + n ∧ st.nonce ≤ b + n := by
  have h1 : st.decs + 0 ≤ 0 + scalarEntries st.seen + b := h.1
  have h2 : st.nonce + 0 ≤ 0 + scalarEntries st.seen + b := h.2
  omega

/-- `hr` is what the walk below the visited node gives, `b` its calls; a recorded scalar image pays
for one of them (`hb`), so the calls of an anchored secret are counted by `scalarEntries`. -/
theorem visit_once {names : List Str} {bare : Node → Bool} {a : Option Str} {st : St} {r : Node × St}
    {b b' : Nat} (hc : CInv names st.seen)
    (hfresh : ∀ an, a = some an → st.seen.lookup an = none → r.2.seen.lookup an = none)
    (hnm : ∀ an, a = some an → r.1.isScalar = true → an ∈ names)
    (hr : CInv names r.2.seen ∧ Calls st r.2 b)
    (hb0 : a = none → b ≤ b') (hb : b ≤ b' + if r.1.isScalar then 1 else 0) :
    CInv names (visit bare a st r).2.seen ∧ Calls st (visit bare a st r).2 b' := by
  cases a with
  | none => exact ⟨hr.1, calls_mono hr.2 (hb0 rfl)⟩
  | some an =>
    cases hl : st.seen.lookup an with
    | some n' => rw [visit_hit hl]; exact ⟨hc, calls_refl _ _⟩
    | none =>
      rw [visit_first hl]
      refine ⟨cinv_cons hr.1 (hfresh an rfl hl) (hnm an rfl), ?_⟩
      unfold Calls
      rw [scalarEntries_cons]
      exact ⟨le_add_shift hr.2.1 hb, le_add_shift hr.2.2 hb⟩

mutual
theorem rotNode_once (C : Cipher) (old new : Str) (tbl : Str → Option Node) (names : List Str) :
    ∀ (n : Node) (st : St), WF C old tbl n → (∀ an ∈ secretAnchors n, an ∈ names) → CInv names st.seen →
      CInv names (rotNode C old new n st).2.seen ∧ Calls st (rotNode C old new n st).2 (bareCount n)
  | .scalar a v => fun st hwf hnm hc => by
    rcases rotNode_scalar C old new a v st with ⟨_, e⟩ | ⟨s, rfl, hs, e⟩ <;> rw [e]
    · exact ⟨hc, calls_refl _ _⟩
    · exact visit_once hc (fun _ _ h => by rw [rotValue_seen]; exact h)
        (fun an ha _ => hnm an (by subst ha; simp [secretAnchors, isSecret, hs]))
        ⟨by rw [rotValue_seen]; exact hc, rotValue_calls C old new s st⟩
        (fun ha => by subst ha; simp [bareCount, isSecret, hs]) (Nat.le_add_left _ _)
  | .seq a xs => fun st hwf hnm hc => by
    rw [rotNode_seq]
    exact visit_once hc
      (fresh_of_new hwf.1 (nsize_seq a xs) (rotList_new C old new tbl xs st hwf.2))
      (fun _ _ h => nomatch h) (rotList_once C old new tbl names xs st hwf.2 hnm hc)
      (fun _ => Nat.le_refl _) (Nat.le_add_right _ _)
  | .map a es => fun st hwf hnm hc => by
    rw [rotNode_map]
    exact visit_once hc
      (fresh_of_new hwf.1 (nsize_map a es) (rotEntries_new C old new tbl es st hwf.2))
      (fun _ _ h => nomatch h) (rotEntries_once C old new tbl names es st hwf.2 hnm hc)
      (fun _ => Nat.le_refl _) (Nat.le_add_right _ _)
  | .set _ _ => fun _ _ _ hc => ⟨hc, calls_refl _ _⟩
theorem rotList_once (C : Cipher) (old new : Str) (tbl : Str → Option Node) (names : List Str) :
    ∀ (xs : List Node) (st : St), WFL C old tbl xs → (∀ an ∈ secretAnchorsL xs, an ∈ names) → CInv names st.seen →
      CInv names (rotList C old new xs st).2.seen ∧ Calls st (rotList C old new xs st).2 (bareCountL xs)
  | [] => fun _ _ _ hc => ⟨hc, calls_refl _ _⟩
  | x :: xs => fun st hwf hnm hc =>
    have h1 := rotNode_once C old new tbl names x st hwf.1 (fun an h => hnm an (List.mem_append_left _ h)) hc
    have h2 := rotList_once C old new tbl names xs (rotNode C old new x st).2 hwf.2
      (fun an h => hnm an (List.mem_append_right _ h)) h1.1
    ⟨h2.1, calls_trans h1.2 h2.2⟩
theorem rotEntries_once (C : Cipher) (old new : Str) (tbl : Str → Option Node) (names : List Str) :
    ∀ (es : List (Key × Node)) (st : St), WFE C old tbl es → (∀ an ∈ secretAnchorsE es, an ∈ names) →
      CInv names st.seen →
      CInv names (rotEntries C old new es st).2.seen ∧ Calls st (rotEntries C old new es st).2 (bareCountE es)
  | [] => fun _ _ _ hc => ⟨hc, calls_refl _ _⟩
  | (_, x) :: es => fun st hwf hnm hc =>
    have h1 := rotNode_once C old new tbl names x st hwf.1 (fun an h => hnm an (List.mem_append_left _ h)) hc
    have h2 := rotEntries_once C old new tbl names es (rotNode C old new x st).2 hwf.2
      (fun an h => hnm an (List.mem_append_right _ h)) h1.1
    ⟨h2.1, calls_trans h1.2 h2.2⟩
end

end Ypv.Rotate
